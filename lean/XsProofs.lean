import XsProofs.Bytes
import XsProofs.Part
import XsProofs.ListAux
import XsProofs.Inv
import XsProofs.Ops
import XsProofs.Reads
import XsProofs.Gc
import XsProofs.History
import XsProofs.Import
import XsProofs.Follow
import XsProofs.Ttl
import XsProofs.Query
import XsProofs.Json
import XsProofs.Route
import XsProofs.Journal
import XsProofs.Keyed
import XsProofs.Handler
import XsProofs.Registry
import XsProofs.Command
import XsProofs.Generator
import XsProofs.ServeSys
import XsProofs.ServeMulti
import XsProofs.GcRace
import XsProofs.HttpImport
