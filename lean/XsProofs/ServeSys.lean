/-
  The closed system of one instance and its stream: the invariant `LInv` (the instance is `Handler.run`
  over what it has been handed; announcements in the stream are its own), carried along a run by
  `lrun_induction`, gives at quiescence the announcement hypothesis of `restart_restores_active`
  (`LInv.at_quiescence`); its coverage hypothesis is `started_mem_subscription` (Registry.lean).
  The system is run from two start states: the model's `LiveSys.init` (nothing appended yet; C16 speaks of
  it) and `LiveSys.started` (the stream holds `<name>.registered`, as `Handler::spawn` leaves it), which the
  restart theorem needs because the stored stream it scans contains that frame.
-/
import XsModel.ServeSys
import XsProofs.Registry
namespace Xs.Serve

variable {σ : Type}

/-- the script never writes its own stop announcement (topic `<name>.unregistered`) -/
def NoSelfAnnounce (cfg : HCfg) (eval : σ → SFrame → σ × EvalRes) : Prop :=
  ∀ env f env' appends ret, eval env f = (env', .ok appends ret) →
    ∀ o ∈ appends.map (emit cfg f) ++ retFrames cfg f ret, o.topic ≠ topicOf cfg.name sUnregistered

theorem lrun_induction {cfg : HCfg} {eval : σ → SFrame → σ × EvalRes} {pre : List SFrame} {P : LiveSys σ → Prop}
    (hstep : ∀ {s a s'}, P s → lstep cfg eval pre s a = some s' → P s') {s s' : LiveSys σ} (h : P s)
    {as : List LAct} (e : lrun cfg eval pre s as = some s') : P s' := by
  induction as generalizing s with
  | nil => cases e; exact h
  | cons a as ih =>
    simp only [lrun] at e
    split at e
    next hs => exact ih (hstep h hs) e
    next => cases e

/-- the instance is `run` over what it has been handed, what it emitted is in the stream, and a stop
    announcement in the stream was written by it -/
structure LInv (cfg : HCfg) (eval : σ → SFrame → σ × EvalRes) (pre : List SFrame) (env0 : σ) (s : LiveSys σ) : Prop where
  pos_le : s.pos ≤ (s.input cfg pre).length
  run_eq : ∃ invs, run cfg eval .running env0 ((s.input cfg pre).take s.pos) = (s.st, s.env, s.outs, invs)
  outs_live : ∀ g ∈ s.outs, g ∈ s.live
  ann_outs : ∀ g ∈ s.live, announces cfg g = true → g ∈ s.outs

theorem input_append {cfg : HCfg} {pre : List SFrame} {s : LiveSys σ} {o : List SFrame} {p : Nat} {st : HState}
    {env : σ} {outs : List SFrame} :
    LiveSys.input cfg pre ⟨s.live ++ o, p, st, env, outs⟩ = s.input cfg pre ++ o.filter (fun g => g.ctx = cfg.ctx) := by
  simp [LiveSys.input, List.filter_append]

theorem lstep_inv {cfg : HCfg} {eval : σ → SFrame → σ × EvalRes} {pre : List SFrame} {env0 : σ}
    {s s' : LiveSys σ} {a : LAct} (h : LInv cfg eval pre env0 s) (e : lstep cfg eval pre s a = some s') :
    LInv cfg eval pre env0 s' := by
  cases a with
  | envAppend f =>
    cases hna : announces cfg f <;> simp only [lstep, hna] at e <;> cases e
    refine ⟨?_, ?_, fun g hg => List.mem_append_left _ (h.outs_live g hg), fun g hg ha => ?_⟩
    · rw [input_append, List.length_append]; exact Nat.le_add_right_of_le h.pos_le
    · rw [input_append, List.take_append_of_le_length h.pos_le]; exact h.run_eq
    · rcases List.mem_append.mp hg with hg | hg
      · exact h.ann_outs g hg ha
      · rw [List.mem_singleton.mp hg, hna] at ha; cases ha
  | instStep =>
    rcases hf : (s.input cfg pre)[s.pos]? with _ | f <;> simp only [lstep, hf] at e <;> cases e
    have hlt := (List.getElem?_eq_some_iff.mp hf).1
    obtain ⟨invs, hrun⟩ := h.run_eq
    generalize hr : step cfg eval s.st s.env f = r
    -- what the instance writes is of its own context, so it will be handed all of it
    have hown : r.2.2.1.filter (fun g => g.ctx = cfg.ctx) = r.2.2.1 :=
      List.filter_eq_self.mpr fun o ho => decide_eq_true (step_outputs_stamped (hr ▸ ho)).2.2
    refine ⟨?_, ?_, fun g hg => ?_, fun g hg ha => ?_⟩
    · rw [input_append, hown, List.length_append]; exact Nat.le_add_right_of_le hlt
    · rw [input_append, hown, List.take_append_of_le_length (Nat.succ_le_of_lt hlt), List.take_add_one, hf,
        Option.toList_some, run_append, hrun]
      dsimp only [run]
      rw [hr, List.append_nil]
      exact ⟨_, rfl⟩
    · exact List.mem_append.mpr ((List.mem_append.mp hg).imp (h.outs_live g) id)
    · exact List.mem_append.mpr ((List.mem_append.mp hg).imp (h.ann_outs g · ha) id)

theorem lrun_inv {cfg : HCfg} {eval : σ → SFrame → σ × EvalRes} {pre : List SFrame} {env0 : σ}
    {s s' : LiveSys σ} (h : LInv cfg eval pre env0 s) {as : List LAct} (e : lrun cfg eval pre s as = some s') :
    LInv cfg eval pre env0 s' :=
  lrun_induction lstep_inv h e

theorem linv_init (cfg : HCfg) (eval : σ → SFrame → σ × EvalRes) (pre : List SFrame) (env0 : σ) :
    LInv cfg eval pre env0 (LiveSys.init env0) :=
  ⟨Nat.zero_le _, ⟨[], rfl⟩, fun _ h => h, fun _ h => (nomatch h)⟩

theorem unregistered_announces (cfg : HCfg) (f : SFrame) (e : Option String) :
    announces cfg (unregistered cfg f e) = true := by
  cases e <;> simp [announces, unregistered, metaGet]

/-- once the instance has been handed everything there is, it is `run` over its whole subscription,
    and a `<name>.unregistered` naming it is in the stream exactly when it has stopped -/
theorem LInv.at_quiescence {cfg : HCfg} {eval : σ → SFrame → σ × EvalRes} (hno : NoSelfAnnounce cfg eval)
    {pre : List SFrame} {env0 : σ} {s : LiveSys σ} (hI : LInv cfg eval pre env0 s) (hq : s.quiescent cfg pre) :
    ((∃ g ∈ s.live, announces cfg g = true) ↔ s.st = .stopped) ∧
    (run cfg eval .running env0 (s.input cfg pre)).1 = s.st := by
  obtain ⟨invs, hrun⟩ := hI.run_eq
  rw [hq, List.take_length] at hrun
  refine ⟨⟨?_, fun hs => ?_⟩, by rw [hrun]⟩
  · rintro ⟨g, hg, ha⟩
    cases hs : s.st with
    | stopped => rfl
    | running =>
      -- what a running instance emitted came from successful calls, which never write the announcement
      obtain ⟨_, f, _, ap, ret, he, ho⟩ :=
        (run_running (by rw [hrun, hs])).2 g (by rw [hrun]; exact hI.ann_outs g hg ha)
      simp only [announces, Bool.and_eq_true, decide_eq_true_eq] at ha
      exact absurd ha.1.1 (hno _ f _ ap ret he g ho)
  · rcases run_cases cfg eval env0 (s.input cfg pre) with h | ⟨p, f, q, err, _, _, _, ho, _⟩
    · rw [hrun, hs] at h; cases h
    refine ⟨unregistered cfg f err, hI.outs_live _ ?_, unregistered_announces cfg f err⟩
    rw [hrun] at ho
    exact (show s.outs = _ from ho) ▸ List.mem_append_right _ (List.mem_singleton_self _)

/-- C16/C17 (the `ann` hypothesis of `restart_restores_active`, discharged for the closed system):
    whatever clients and other handlers append and however the steps interleave, once the
    instance has been handed everything there is, a `<name>.unregistered` naming it is in the
    stream exactly when it has stopped - given only that nobody else writes that frame -/
theorem announced_iff_stopped (cfg : HCfg) (eval : σ → SFrame → σ × EvalRes) (hno : NoSelfAnnounce cfg eval)
    (pre : List SFrame) (env0 : σ) (as : List LAct) (s : LiveSys σ)
    (e : lrun cfg eval pre (LiveSys.init env0) as = some s) (hq : s.quiescent cfg pre) :
    (∃ g ∈ s.live, announces cfg g = true) ↔ s.st = .stopped :=
  ((lrun_inv (linv_init cfg eval pre env0) e).at_quiescence hno hq).1

theorem announces_iff {cfg : HCfg} {g : SFrame} :
    announces cfg g = true ↔
      (classify g.topic = some (cfg.name, .unregistered) ∧ g.ctx = cfg.ctx ∧
        metaGet g.mdata "handler_id" = some (idText cfg.id)) := by
  rw [classify_eq_iff (by decide)]
  simp [announces, Kind.suffix, and_assoc]

/-- the closed system right after `Handler::spawn`: the stream holds the announcement
    `<name>.registered`, the instance has been handed nothing yet -/
def LiveSys.started (cfg : HCfg) (env : σ) : LiveSys σ := ⟨[registeredFrame cfg], 0, .running, env, []⟩

theorem registered_not_announcement (cfg : HCfg) : announces cfg (registeredFrame cfg) = false := by
  have : (registeredFrame cfg).topic ≠ topicOf cfg.name sUnregistered := fun h =>
    absurd (String.ofList_inj.mp ((String.append_right_inj cfg.name).mp h)) (by decide)
  simp [announces, this]

theorem linv_started (cfg : HCfg) (eval : σ → SFrame → σ × EvalRes) (pre : List SFrame) (env0 : σ) :
    LInv cfg eval pre env0 (LiveSys.started cfg env0) := by
  refine ⟨Nat.zero_le _, ⟨[], rfl⟩, fun _ h => (nomatch h), fun g hg ha => ?_⟩
  rw [List.mem_singleton.mp hg, registered_not_announcement] at ha
  cases ha

/-- C17, closed: an instance the serve loop started, run in the closed system (clients and other
    handlers append anything but its stop announcement, the script does not write it either),
    for every interleaving: when it has been handed everything there is, a restart on the whole
    stored stream starts its `.register` again exactly when the instance is still running.
    `P ++ r :: Q` is the stream when it subscribed; nothing in it announces the instance. -/
theorem restart_restores_running_closed (parse : SFrame → Except String (HCfg × Resume)) (hparse : ParseOk parse)
    (name : String) (P Q : List SFrame) (r : SFrame) (s' : List SFrame) (st : Started)
    (h : startHandler parse name (P ++ r :: Q) r = (s', some st)) (thr : SFrame)
    (eval : σ → SFrame → σ × EvalRes) (hno : NoSelfAnnounce st.cfg eval) (env0 : σ)
    (as : List LAct) (s : LiveSys σ)
    (e : lrun st.cfg eval (subPre st.cfg st.resume (P ++ r :: Q) thr) (LiveSys.started st.cfg env0) as = some s)
    (hq : s.quiescent st.cfg (subPre st.cfg st.resume (P ++ r :: Q) thr))
    (hnd : (P ++ r :: (Q ++ s.live)).Nodup)
    (later : ∀ f ∈ Q ++ s.live, r.id < f.id)
    (hres : ∀ x, st.resume = .after x → x ≤ r.id)
    (hQ : ∀ f ∈ Q, announces st.cfg f = false) :
    r ∈ compact (P ++ r :: (Q ++ s.live)) ↔ s.st = .running := by
  obtain ⟨hid, hctx, hcl⟩ := hparse r st.cfg st.resume (startHandler_eq_some.mp h).1
  obtain ⟨hann, hstate⟩ := (lrun_inv (linv_started st.cfg eval _ env0) e).at_quiescence hno hq
  rw [← hstate]
  refine restart_restores_active st.cfg eval env0 P (Q ++ s.live) _ r (r.ctx, st.cfg.name) hnd ⟨hcl, rfl⟩ rfl hctx hid
    later (fun f hf hfc hreg => ?_) ?_
  · rw [LiveSys.input, ← subscription_eq_pre]
    exact started_mem_subscription h thr
      ((List.mem_append.mp hf).symm.imp id fun hq => List.mem_append_right _ (List.mem_cons_of_mem _ hq))
      (hctx ▸ hfc) hreg (hid ▸ later f hf) fun a ha => Nat.lt_of_le_of_lt (hres a ha) (later f hf)
  · rw [hstate, ← hann, ← hid, ← hctx]
    simp only [← announces_iff, List.mem_append]
    refine ⟨?_, Exists.imp fun g hg => ⟨.inr hg.1, hg.2⟩⟩
    rintro ⟨f, hf | hf, ha⟩
    · rw [hQ f hf] at ha; cases ha
    · exact ⟨f, hf, ha⟩

end Xs.Serve
