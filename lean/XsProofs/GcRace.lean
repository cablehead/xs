/-
  Explicit removals racing the head:N collector.

  The collector picks its victims in one scan (`CheckHeadTTL`: newest first, skip `keep`) and then
  removes them one `Store::remove` at a time; meanwhile other threads may remove frames
  explicitly.  As long as the explicit removals that land *before* the scan hit frames outside
  the `keep` newest of the topic, the frames stored at the end are the same as if the collector
  had run first and all removals afterwards - wherever the removals fall, and however the
  collector's own removals interleave with the later ones.
-/
import XsProofs.Gc
namespace Xs

attribute [local irreducible] be unbe

/-- how many members of `L` are newer than `g` -/
def newerCount (L : List Frame) (g : Frame) : Nat := (L.filter (fun h => decide (g.id < h.id))).length

/-- in a list sorted by id, everything but the `keep` newest = the members with at least `keep`
    newer ones -/
theorem mem_take_iff_rank {L : List Frame} (hs : L.Pairwise (fun a b => a.id < b.id)) (keep : Nat) (g : Frame) :
    g ∈ L.take (L.length - keep) ↔ g ∈ L ∧ keep ≤ newerCount L g := by
  by_cases hm : g ∈ L
  · -- `g` splits the list into its older and its newer members
    obtain ⟨A, B, rfl⟩ := List.append_of_mem hm
    obtain ⟨_, hgB, hA⟩ := List.pairwise_append.1 hs
    have hB := (List.pairwise_cons.1 hgB).1
    have hn : newerCount (A ++ g :: B) g = B.length := by
      rw [newerCount, List.filter_append, List.filter_eq_nil_iff.2, List.filter_cons_of_neg (by simp),
        List.filter_eq_self.2, List.nil_append]
      · exact fun b hb => decide_eq_true (hB b hb)
      · exact fun a ha => mt of_decide_eq_true (Nat.lt_asymm (hA a ha g List.mem_cons_self))
    have hgA : g ∉ A := fun h => Nat.lt_irrefl _ (hA g h g List.mem_cons_self)
    -- so `g` is among the first `n` iff `n` reaches beyond the older ones
    rw [hn, List.take_append, List.mem_append, List.length_append, List.length_cons, Nat.sub_right_comm,
      Nat.add_sub_cancel_left, or_iff_right fun h => hgA (List.mem_of_mem_take h), and_iff_right hm,
      ← Nat.lt_succ_iff, ← Nat.sub_pos_iff_lt]
    cases B.length + 1 - keep <;> simp
  · exact ⟨fun h => absurd (List.mem_of_mem_take h) hm, fun h => absurd h.1 hm⟩

/-- `x` is not the id of one of the `keep` newest frames of (context `c`, topic `t`) -/
def OldIn (s : State) (c : Nat) (t : List Nat) (keep : Nat) (x : Nat) : Prop :=
  ∀ f ∈ topicFrames s c t, f.id = x → keep ≤ newerCount (topicFrames s c t) f

/-- … that is, a frame of that topic with this id is one the collector would evict -/
theorem oldIn_iff {s : State} (h : InvK s) {c : Nat} {t : List Nat} {keep x : Nat} :
    OldIn s c t keep x ↔ ∀ f ∈ topicFrames s c t, f.id = x → f ∈ victims s c t keep :=
  forall_congr' fun f => forall_congr' fun hf => forall_congr' fun _ => by
    rw [victims, mem_take_iff_rank (topicFrames_sorted h c t), and_iff_right hf]

/-- explicit removals of old frames before the collector's scan: the collector then picks what it
    would have picked, less what is gone already -/
theorem victims_foldl_remove {s : State} (h : Inv s) (R : List Nat) (hR : ∀ x ∈ R, x < idBound)
    {c : Nat} {t : List Nat} {keep : Nat} (hold : ∀ x ∈ R, OldIn s c t keep x) :
    victims (R.foldl State.remove s) c t keep = (victims s c t keep).filter fun f => f.id ∉ R := by
  rw [victims, topicFrames_of_frames_filter (frames_foldl_remove h R hR), victims]
  refine take_filter_of_old fun f hf => ?_
  -- a frame among the `keep` newest is not a victim, so its id is not in `R`
  rw [← filter_not_mem_take (topicFrames_nodup h.k c t)] at hf
  obtain ⟨hf, hnv⟩ := List.mem_filter.1 hf
  simp only [decide_eq_true_eq] at hnv ⊢
  exact fun hx => hnv ((oldIn_iff h.k).1 (hold _ hx) f hf rfl)

/-- C08, explicit removals racing the collector: `R1` are the removals that land before the
    collector's scan (all of frames outside the `keep` newest of the topic), `mix` is *any*
    sequence made of the collector's own removals and the later explicit ones `R2`, in any order
    and with any repetitions.  The frames stored at the end are those of the sequential history
    collector; then all the removals. -/
theorem removals_race_collector {s : State} (h : Inv s) {t : List Nat} {c : Nat} (ht : NulFree t)
    (hc : c < idBound) (keep : Nat) (R1 R2 mix : List Nat) (hR1 : ∀ x ∈ R1, x < idBound)
    (hR2 : ∀ x ∈ R2, x < idBound) (hold : ∀ x ∈ R1, OldIn s c t keep x)
    (hmix : ∀ i, i ∈ mix ↔ i ∈ victimIds (R1.foldl State.remove s) c t keep ∨ i ∈ R2) (g : Frame) :
    g ∈ frames (mix.foldl State.remove (R1.foldl State.remove s)) ↔
      g ∈ frames ((R1 ++ R2).foldl State.remove (s.applyTask (.checkHead c t keep))) := by
  have h1 := foldl_remove_inv h R1
  have hv := victimIds_lt h1.k ht hc keep
  rw [mem_frames_foldl_remove h1 mix fun i hi => ((hmix i).1 hi).elim (hv i) (hR2 i),
    mem_frames_foldl_remove h R1 hR1,
    mem_frames_foldl_remove (applyTask_inv h _) (R1 ++ R2) fun i hi => (List.mem_append.1 hi).elim (hR1 i) (hR2 i),
    mem_checkHead_frames h ht hc, hmix, victimIds_eq h1.k ht hc, victims_foldl_remove h R1 hR1 hold]
  simp only [List.mem_reverse, List.mem_map, List.mem_filter, decide_eq_true_eq, List.mem_append, not_or]
  constructor
  · rintro ⟨⟨hg, h1⟩, hnv, h2⟩
    exact ⟨⟨hg, fun hm => hnv ⟨g, ⟨hm, h1⟩, rfl⟩⟩, h1, h2⟩
  · rintro ⟨⟨hg, hnv⟩, h1, h2⟩
    refine ⟨⟨hg, h1⟩, ?_, h2⟩
    rintro ⟨g', ⟨hm, _⟩, e⟩
    exact hnv (h.k.frame_unique (mem_victims_frames hm) hg e ▸ hm)

end Xs
