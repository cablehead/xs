/-
  The writes keep the invariant: `remove` is `delFrame` of the frame found, `insert_frame` is
  `remove` of the id followed by `addFrame`, a gc task is a fold of removes, `append` is its
  admission rule followed by `insert_frame` (`append_spec`). The case analysis over all
  operations (`step_inv`) is in History; `reopen`, which rebuilds the registry by a scan, in Reads.
-/
import XsProofs.Inv
namespace Xs
open Part

attribute [local irreducible] be unbe

theorem remove_none {s : State} {id : Nat} (hg : s.get id = none) : s.remove id = s := by
  simp [State.remove, hg]

theorem remove_some {s : State} (h : InvK s) {id : Nat} {o : Frame} (hg : s.get id = some o) :
    s.remove id = delFrame s o := by
  obtain ⟨ho, hk⟩ := h.get_eq_some_iff.1 hg
  simp [State.remove, hg, hasNul_eq_false_iff.2 (h.wfFrame ho).nul, delFrame, hk]

theorem remove_inv {s : State} (h : Inv s) (id : Nat) : Inv (s.remove id) := by
  cases hg : s.get id with
  | none => rw [remove_none hg]; exact h
  | some o => rw [remove_some h.k hg]; exact delFrame_inv h (h.k.get_eq_some_iff.1 hg).1

theorem frames_remove {s : State} (h : InvK s) {id : Nat} (hid : id < idBound) :
    frames (s.remove id) = (frames s).filter fun g => g.id ≠ id := by
  cases hg : s.get id with
  | none =>
    rw [remove_none hg]
    exact (List.filter_eq_self.2 fun g hm => by simpa using (h.get_eq_none_iff hid).1 hg g hm).symm
  | some o =>
    obtain ⟨ho, rfl⟩ := (get_spec h hid o).1 hg
    rw [remove_some h hg, frames_delFrame h hid]

theorem mem_frames_remove {s : State} (h : InvK s) {id : Nat} (hid : id < idBound) (g : Frame) :
    g ∈ frames (s.remove id) ↔ g ∈ frames s ∧ g.id ≠ id := by
  simp [frames_remove h hid]

theorem insertFrameCore_eq {s : State} (h : InvK s) (f : Frame) :
    s.insertFrameCore f = addFrame (s.remove f.id) f := by
  cases hg : s.get f.id with
  | none => simp [remove_none hg, State.insertFrameCore, addFrame, hg]
  | some o =>
    obtain ⟨ho, hk⟩ := h.get_eq_some_iff.1 hg
    -- erasing the old index key only if it differs from the new one, as the code does, is erasing it
    have key : ∀ {p : Part Unit}, Sorted p → ∀ k' k : Key,
        Part.insert k () (if k' ≠ k then erase k' p else p) = Part.insert k () (erase k' p) := fun hs k' k => by
      by_cases e : k' = k <;> simp [e, insert_erase_self hs]
    rw [remove_some h hg]
    simp only [State.insertFrameCore, addFrame, delFrame, hg, hasNul_eq_false_iff.2 (h.wfFrame ho).nul,
      ← hk, insert_erase_self h.sS, Bool.not_false, Bool.true_and, decide_eq_true_eq, key h.sT, key h.sC]

theorem insertFrameCore_inv {s : State} (h : Inv s) {f : Frame} (wf : WfFrame f) :
    Inv (s.insertFrameCore f) := by
  rw [insertFrameCore_eq h.k]
  exact addFrame_inv (remove_inv h _) wf fun g hg => ((mem_frames_remove h.k wf.id_lt g).1 hg).2

theorem mem_frames_insertFrameCore {s : State} (h : Inv s) {f : Frame} (hf : f.id < idBound)
    (g : Frame) : g ∈ frames (s.insertFrameCore f) ↔ g = f ∨ (g ∈ frames s ∧ g.id ≠ f.id) := by
  rw [insertFrameCore_eq h.k, mem_frames_addFrame (remove_inv h _).k hf
    (fun g hg => ((mem_frames_remove h.k hf g).1 hg).2), mem_frames_remove h.k hf]

theorem insertFrame_ok {s s' : State} {f : Frame} (e : s.insertFrame f = .ok s') :
    f.decodable = true ∧ hasNul f.topic = false ∧ s' = s.insertFrameCore f := by
  unfold State.insertFrame at e
  by_cases hd : f.decodable = true <;> by_cases hn : hasNul f.topic = true <;> simp_all

theorem insertFrame_accepts {s : State} {f : Frame} (hd : f.decodable = true) (hn : hasNul f.topic = false) :
    s.insertFrame f = .ok (s.insertFrameCore f) := by
  simp [State.insertFrame, hd, hn]

theorem insertFrame_inv {s s' : State} (h : Inv s) {f : Frame} (hid : f.id < idBound)
    (hctx : f.ctx < idBound) (e : s.insertFrame f = .ok s') : Inv s' :=
  (insertFrame_ok e).2.2 ▸ insertFrameCore_inv h
    ⟨hid, hctx, hasNul_eq_false_iff.1 (insertFrame_ok e).2.1, (insertFrame_ok e).1⟩

theorem mem_frames_insertFrame {s s' : State} (h : Inv s) {f : Frame} (hid : f.id < idBound)
    (e : s.insertFrame f = .ok s') (g : Frame) :
    g ∈ frames s' ↔ g = f ∨ (g ∈ frames s ∧ g.id ≠ f.id) :=
  (insertFrame_ok e).2.2 ▸ mem_frames_insertFrameCore h hid g

/-- a gc task is a sequence of removes: what every remove keeps, every task keeps -/
theorem applyTask_rec {P : State → Prop} (hrm : ∀ s id, P s → P (s.remove id)) {s : State} (h : P s)
    (t : GCTask) : P (s.applyTask t) := by
  cases t with
  | remove id => exact hrm s id h
  | checkHead c t keep => exact List.foldlRecOn _ _ h fun s h id _ => hrm s id h

/-- … and so does every sequence of tasks (`gc`, `wait_for_gc`) -/
theorem foldl_applyTask_rec {P : State → Prop} (hrm : ∀ s id, P s → P (s.remove id)) {s : State} (h : P s)
    (ts : List GCTask) : P (ts.foldl State.applyTask s) :=
  List.foldlRecOn ts _ h fun _ h t _ => applyTask_rec hrm h t

theorem foldl_remove_inv {s : State} (h : Inv s) (ids : List Nat) : Inv (ids.foldl State.remove s) :=
  List.foldlRecOn (motive := Inv) ids _ h fun _ h a _ => remove_inv h a

theorem applyTask_inv {s : State} (h : Inv s) (t : GCTask) : Inv (s.applyTask t) :=
  applyTask_rec (P := Inv) (fun _ id h => remove_inv h id) h t

theorem foldl_applyTask_inv {s : State} (h : Inv s) (ts : List GCTask) : Inv (ts.foldl State.applyTask s) :=
  foldl_applyTask_rec (P := Inv) (fun _ id h => remove_inv h id) h ts

/-- the frame `append` works on: the request with the assigned id, ttl forced to `forever`
    for `xs.context` -/
def stamped (f0 : Frame) (id : Nat) : Frame :=
  { f0 with id := id, ttl := if f0.topic = xsContext then some .forever else f0.ttl }

/-- the state after an accepted, stored append of `f` -/
def storedState (s : State) (f : Frame) : State :=
  { s.insertFrameCore f with
    gcq := (s.insertFrameCore f).gcq ++ headTask f
    bcast := (s.insertFrameCore f).bcast ++ [f] }

theorem append_eq (s : State) (f0 : Frame) (id : Nat) :
    s.append f0 id =
      if (if f0.topic = xsContext then f0.ctx = 0 else f0.ctx ∈ s.contexts) then s.appendStore (stamped f0 id)
      else .error (if f0.topic = xsContext then .ctxFrameNotZero else .invalidContext) := by
  unfold State.append State.appendPre stamped
  by_cases ht : f0.topic = xsContext
  · by_cases hc : f0.ctx = 0 <;> simp [ht, hc]
  · by_cases hm : f0.ctx ∈ s.contexts <;> simp [ht, hm]

theorem appendStore_ok_iff {s s' : State} {f f' : Frame} : s.appendStore f = .ok (s', f') ↔
    hasNul f.topic = false ∧ f' = f ∧
    (if f.ttl = some .ephemeral then s' = { s with bcast := s.bcast ++ [f] }
     else f.decodable = true ∧ s' = storedState s f) := by
  rw [eq_comm, State.appendStore, storedState]
  cases hasNul f.topic
  · by_cases he : f.ttl = some .ephemeral
    · simp [he, and_comm]
    · cases f.decodable <;> simp [he, and_comm]
  · simp

/-- complete characterisation of `Store::append` -/
theorem append_spec {s s' : State} {f0 f : Frame} {id : Nat} :
    s.append f0 id = .ok (s', f) ↔
      hasNul f0.topic = false ∧
      (if f0.topic = xsContext then f0.ctx = 0 else f0.ctx ∈ s.contexts) ∧
      f = stamped f0 id ∧
      (if f.ttl = some .ephemeral then s' = { s with bcast := s.bcast ++ [f] }
       else f.decodable = true ∧ s' = storedState s f) := by
  rw [append_eq]
  by_cases ha : (if f0.topic = xsContext then f0.ctx = 0 else f0.ctx ∈ s.contexts)
  · rw [if_pos ha, appendStore_ok_iff]
    constructor
    · rintro ⟨h1, rfl, h3⟩; exact ⟨h1, ha, rfl, h3⟩
    · rintro ⟨h1, _, rfl, h3⟩; exact ⟨h1, rfl, h3⟩
  · rw [if_neg ha]
    exact ⟨nofun, fun h => absurd h.2.1 ha⟩

theorem append_stored {s s' : State} {f0 f : Frame} {id : Nat} (hid : id < idBound) (hctx : f0.ctx < idBound)
    (e : s.append f0 id = .ok (s', f)) (hne : f.ttl ≠ some .ephemeral) :
    WfFrame f ∧ s' = storedState s f := by
  obtain ⟨hn, _, rfl, h4⟩ := append_spec.1 e
  rw [if_neg hne] at h4
  exact ⟨⟨hid, hctx, hasNul_eq_false_iff.1 hn, h4.1⟩, h4.2⟩

/-- the two ways an append is accepted: broadcast only (ephemeral), or stored, queued and broadcast -/
theorem append_cases {s s' : State} {f0 f : Frame} {id : Nat} (e : s.append f0 id = .ok (s', f)) :
    (f.ttl = some .ephemeral ∧ s' = { s with bcast := s.bcast ++ [f] }) ∨
    (f.ttl ≠ some .ephemeral ∧ f.decodable = true ∧ s' = storedState s f) := by
  have h4 := (append_spec.1 e).2.2.2
  split at h4
  · exact .inl ⟨‹_›, h4⟩
  · exact .inr ⟨‹_›, h4⟩

theorem append_inv {s s' : State} {f0 f : Frame} {id : Nat} (h : Inv s) (hid : id < idBound)
    (hctx : f0.ctx < idBound) (e : s.append f0 id = .ok (s', f)) : Inv s' := by
  rcases append_cases e with ⟨_, rfl⟩ | ⟨he, _⟩
  · exact inv_of_parts h rfl rfl rfl rfl
  · obtain ⟨wf, rfl⟩ := append_stored hid hctx e he
    exact inv_of_parts (insertFrameCore_inv h wf) rfl rfl rfl rfl

theorem mem_frames_append {s s' : State} {f0 f : Frame} {id : Nat} (h : Inv s) (hid : id < idBound)
    (e : s.append f0 id = .ok (s', f)) (hne : f.ttl ≠ some .ephemeral)
    (g : Frame) : g ∈ frames s' ↔ g = f ∨ (g ∈ frames s ∧ g.id ≠ f.id) := by
  obtain ⟨_, _, rfl, h4⟩ := append_spec.1 e
  rw [if_neg hne] at h4
  exact h4.2 ▸ mem_frames_insertFrameCore h hid g

end Xs
