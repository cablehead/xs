/-
  The HTTP front end over the store model. The content store keeps under a hash the bytes first
  put there; `handle_effect` is the one walk over the dispatcher: what any request can do to the
  content store and to the stream.
-/
import XsModel.Route
import XsProofs.Ops
namespace Xs.Http

/-- a put is readable under its hash, provided an entry already there holds the same bytes -/
theorem casGet_casPut_self {cas : List (String × List Nat)} {h : String} {b : List Nat}
    (hagree : ∀ b', casGet cas h = some b' → b' = b) : casGet (casPut cas h b) h = some b := by
  unfold casPut
  cases hg : casGet cas h with
  | some b' => simpa [hg] using hagree b' hg
  | none => simp [casGet, List.find?_append, Option.map_eq_none_iff.1 hg]

/-- a put leaves every entry as it is: also the one under its own hash -/
theorem casGet_casPut_of_some {cas : List (String × List Nat)} (h : String) (b : List Nat) {h' : String} {b0 : List Nat}
    (hg : casGet cas h' = some b0) : casGet (casPut cas h b) h' = some b0 := by
  unfold casPut
  split
  · exact hg
  · obtain ⟨kv, hf, e⟩ := Option.map_eq_some_iff.1 hg
    rw [casGet, List.find?_append, hf]
    exact congrArg some e

/-- what a request may do to the server: the content store stays or gains the request's body under
    its hash; the stream stays unless the request is answered without a client error -/
def Effect (s : Srv) (r : Request) (out : Srv × Resp) : Prop :=
  (out.1.cas = s.cas ∨ out.1.cas = casPut s.cas r.bodyHash r.body) ∧
  (out.1.store = s.store ∨ out.2.status < 400)

theorem Effect.none {s : Srv} {r : Request} (resp : Resp) : Effect s r (s, resp) := ⟨.inl rfl, .inl rfl⟩

/-- `POST /{topic}` in three outcomes: the body could not be read; the content is in the CAS but
    `xs-meta` or the store refuses; the content is in the CAS and the frame appended -/
theorem handleAppend_cases (s : Srv) (r : Request) (topic : List Nat) (ttl : TTL) (ctx : Nat) :
    handleAppend s r topic ttl ctx = (s, .badRequest) ∨
    ∃ s1 : Srv, s1.store = s.store ∧ s1.cas = (if r.body.isEmpty then s.cas else casPut s.cas r.bodyHash r.body) ∧
      (handleAppend s r topic ttl ctx = (s1, .badRequest) ∨
       ∃ m st f,
         s.store.append
           { topic := topic, ctx := ctx, id := 0, hash := (if r.body.isEmpty then none else some r.bodyHash),
             mdata := m, ttl := some ttl, decodable := r.metaDecodable } r.newId = .ok (st, f) ∧
         handleAppend s r topic ttl ctx = ({ s1 with store := st }, .frame f)) := by
  by_cases hb : r.bodyBroken = true
  · exact .inl (if_pos hb)
  · rw [handleAppend, if_neg hb]
    refine .inr ⟨{ s with cas := if r.body.isEmpty then s.cas else casPut s.cas r.bodyHash r.body }, rfl, rfl, ?_⟩
    dsimp only [handleAppendRead]
    split
    · exact .inl rfl
    · rename_i m _
      split
      · rename_i st f happ
        exact .inr ⟨m, st, f, happ, rfl⟩
      · exact .inl rfl

theorem handle_effect (s : Srv) (r : Request) : Effect s r (handle s r) := by
  have ok : (200 : Nat) < 400 := by decide
  unfold handle
  cases matchRoute r with
  | streamCat sse o =>
    -- a read leaves the content store alone and is answered 200, following or not
    dsimp only [handleCat]
    cases followOf o.follow <;> cases o.tail <;> exact ⟨.inl rfl, .inr ok⟩
  | itemRemove id => exact ⟨.inl rfl, .inr (by decide : (204 : Nat) < 400)⟩
  | headGet topic follow ctx => cases follow <;> exact .none _
  | casPost =>
    dsimp only [handleCasPost, handleCasPostRead]
    cases r.bodyBroken
    · cases r.body.isEmpty
      · exact ⟨.inr rfl, .inl rfl⟩
      · exact .none _
    · exact .none _
  | importR =>
    dsimp only [handleImport, handleImportRead]
    cases r.bodyBroken
    · cases r.importBody with
      | badJson => exact .none _
      | frame f =>
        dsimp only
        cases s.store.insertFrame f
        · exact .none _
        · exact ⟨.inl rfl, .inr ok⟩
    · exact .none _
  | streamAppend topic ttl ctx =>
    dsimp only
    have hc : ∀ s1 : Srv, s1.cas = (if r.body.isEmpty then s.cas else casPut s.cas r.bodyHash r.body) →
        s1.cas = s.cas ∨ s1.cas = casPut s.cas r.bodyHash r.body := fun s1 e =>
      (Decidable.em _).imp (e.trans <| if_pos ·) (e.trans <| if_neg ·)
    rcases handleAppend_cases s r topic ttl ctx with e | ⟨s1, hs, hcas, e | ⟨m, st, f, _, e⟩⟩ <;> rw [e]
    · exact .none _
    · exact ⟨hc s1 hcas, .inl hs⟩
    · exact ⟨hc _ hcas, .inr ok⟩
  | _ => exact .none _

end Xs.Http
