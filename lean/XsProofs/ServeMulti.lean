/-
  Invariants of the joint system of `XsModel/ServeMulti.lean` and, from them, the system-level
  form of C16: among the instances of one (context, name) that have been handed everything there
  is, at most one is running - the one made from the latest `.register`, and only if no
  `.unregister` followed it.
-/
import XsModel.ServeMulti
import XsProofs.Registry
namespace Xs.Serve

variable {σ : Type}

/-- ids are assigned in stream order -/
def IdsOk (s : List SFrame) : Prop := ∀ k f, s[k]? = some f → f.id = k + 1

theorem idsOk_push {s : List SFrame} (h : IdsOk s) (f : SFrame) : IdsOk (push s f) := by
  intro k g hg
  rcases Nat.lt_trichotomy k s.length with hk | rfl | hk
  · exact h k g (by rwa [push, List.getElem?_append_left hk] at hg)
  · rw [push, List.getElem?_concat_length] at hg; cases hg; rfl
  · rw [push, List.getElem?_eq_none (by rw [List.length_append]; exact hk)] at hg; cases hg

theorem push_prefix (s : List SFrame) (f : SFrame) : ∃ ext, push s f = s ++ ext := ⟨_, rfl⟩

theorem pushAll_prefix (s l : List SFrame) : ∃ ext, pushAll s l = s ++ ext := by
  induction l generalizing s with
  | nil => exact ⟨[], (List.append_nil s).symm⟩
  | cons a t ih =>
    obtain ⟨e, he⟩ := ih (push s a)
    exact ⟨_, he.trans (List.append_assoc ..)⟩

theorem idsOk_pushAll {s : List SFrame} (h : IdsOk s) (l : List SFrame) : IdsOk (pushAll s l) := by
  induction l generalizing s with
  | nil => exact h
  | cons a t ih => exact ih (idsOk_push h a)

theorem sub_grows {x : Inst σ} {s : List SFrame} (thr : SFrame) (ext : List SFrame) (hs : x.subAt ≤ s.length) :
    x.sub thr (s ++ ext) = x.sub thr s ++ ext.filter (fun f => f.ctx = x.cfg.ctx) := by
  unfold Inst.sub
  rw [List.take_append_of_le_length hs, List.drop_append_of_le_length hs, subscription_eq_pre, subscription_eq_pre,
    List.filter_append, List.append_assoc]

/-- assumed of `Handler::from_frame` besides `ParseOk`: a resume id, if given, is not in the future
    (it names a frame the registrant has seen) -/
def ResumeOk (parse : SFrame → Except String (HCfg × Resume)) : Prop :=
  ∀ r cfg a, parse r = .ok (cfg, .after a) → a ≤ cfg.id

structure InstInv (m : MCfg σ) (s : MSys σ) (x : Inst σ) : Prop where
  sub_le : x.subAt ≤ s.stream.length
  /-- it was made from a `.register` the serve loop has got to -/
  reg : ∃ r ∈ s.stream, m.parse r = .ok (x.cfg, x.resume) ∧ r.id ≤ s.dpos
  /-- a tail handler that started had not been superseded when it looked -/
  tail : x.resume = .tail → ∀ f ∈ s.stream.take x.subAt, f.ctx = x.cfg.ctx → x.cfg.id < f.id →
    isRegTraffic x.cfg f = false
  pos_le : x.pos ≤ (x.sub m.thr s.stream).length
  /-- a running instance has not been handed a later `.register` / `.unregister` of its name -/
  run : x.st = .running → ∀ f ∈ (x.sub m.thr s.stream).take x.pos, isRegTraffic x.cfg f = true →
    f.id ≤ x.cfg.id

structure MInv (m : MCfg σ) (s : MSys σ) : Prop where
  ids : IdsOk s.stream
  dpos_le : s.dpos ≤ s.stream.length
  insts : ∀ x ∈ s.insts, InstInv m s x
  /-- instances are listed in the order of their `.register` frames -/
  sorted : s.insts.Pairwise (fun a b => a.cfg.id < b.cfg.id)
  /-- … all of which the serve loop has passed -/
  passed : ∀ x ∈ s.insts, x.cfg.id ≤ s.dpos

theorem minv_init (m : MCfg σ) : MInv m (MSys.init : MSys σ) :=
  ⟨(by intro k f h; simp [MSys.init] at h), Nat.le_refl _, (by intro x h; cases h), List.Pairwise.nil,
   (by intro x h; cases h)⟩

/-- an instance's invariant survives the stream growing and the serve loop moving on, as long
    as the instance itself is not touched -/
theorem instInv_grow {m : MCfg σ} {s : MSys σ} {x : Inst σ} (h : InstInv m s x) (ext : List SFrame)
    {d : Nat} (hd : s.dpos ≤ d) (is : List (Inst σ)) :
    InstInv m ⟨s.stream ++ ext, d, is⟩ x := by
  have hsub := sub_grows m.thr ext h.sub_le
  obtain ⟨r, hr, hp, hle⟩ := h.reg
  refine ⟨?_, ⟨r, List.mem_append_left _ hr, hp, Nat.le_trans hle hd⟩, fun ht f hf => h.tail ht f ?_, ?_,
    fun hr f hf => h.run hr f ?_⟩
  · rw [List.length_append]; exact Nat.le_add_right_of_le h.sub_le
  · rwa [List.take_append_of_le_length h.sub_le] at hf
  · rw [hsub, List.length_append]; exact Nat.le_add_right_of_le h.pos_le
  · rwa [hsub, List.take_append_of_le_length h.pos_le] at hf

@[simp] theorem Inst.advance_cfg (x : Inst σ) (r : HState × σ × List SFrame × Bool) : (x.advance r).cfg = x.cfg := rfl
@[simp] theorem Inst.advance_resume (x : Inst σ) (r : HState × σ × List SFrame × Bool) : (x.advance r).resume = x.resume := rfl
@[simp] theorem Inst.advance_subAt (x : Inst σ) (r : HState × σ × List SFrame × Bool) : (x.advance r).subAt = x.subAt := rfl
@[simp] theorem Inst.advance_pos (x : Inst σ) (r : HState × σ × List SFrame × Bool) : (x.advance r).pos = x.pos + 1 := rfl
@[simp] theorem Inst.advance_st (x : Inst σ) (r : HState × σ × List SFrame × Bool) : (x.advance r).st = r.1 := rfl
@[simp] theorem Inst.advance_sub (x : Inst σ) (r : HState × σ × List SFrame × Bool) (thr : SFrame) (s : List SFrame) :
    (x.advance r).sub thr s = x.sub thr s := rfl

/-- the invariant survives the stream growing and the serve loop moving on within it, as long as no
    instance is touched -/
theorem minv_grow {m : MCfg σ} {s : MSys σ} (inv : MInv m s) {ext : List SFrame} {d : Nat}
    (hids : IdsOk (s.stream ++ ext)) (hd : s.dpos ≤ d) (hd' : d ≤ (s.stream ++ ext).length) :
    MInv m ⟨s.stream ++ ext, d, s.insts⟩ :=
  ⟨hids, hd', fun x hx => instInv_grow (inv.insts x hx) ext hd s.insts, inv.sorted,
    fun x hx => Nat.le_trans (inv.passed x hx) hd⟩

/-- the instance that was handed `f`, after its step: whatever it wrote has been appended (`ext`) -/
theorem instInv_advance {m : MCfg σ} {s : MSys σ} {x : Inst σ} (h : InstInv m s x) {f : SFrame}
    (hf : (x.sub m.thr s.stream)[x.pos]? = some f) (ext : List SFrame) (is : List (Inst σ)) :
    InstInv m ⟨s.stream ++ ext, s.dpos, is⟩ (x.advance (step x.cfg (m.eval x.cfg) x.st x.env f)) := by
  have g := instInv_grow h ext (Nat.le_refl _) is
  have hsub := sub_grows m.thr ext h.sub_le
  have hplt : x.pos < (x.sub m.thr s.stream).length := (List.getElem?_eq_some_iff.mp hf).1
  refine ⟨g.sub_le, g.reg, g.tail, ?_, fun hrun a ha hreg => ?_⟩
  · exact Nat.le_trans hplt (hsub ▸ (List.sublist_append_left ..).length_le)
  · obtain ⟨hst, hlate, _⟩ := step_runs hrun
    rw [Inst.advance_sub, Inst.advance_pos, hsub, List.take_append_of_le_length hplt, List.take_add_one, hf,
      List.mem_append] at ha
    rcases ha with ha | ha
    · exact h.run hst a ha hreg
    · cases List.mem_singleton.mp ha
      exact hlate hreg

/-- the serve loop answers the frame it has got to with one frame `g` and starts nothing -/
theorem minv_served {m : MCfg σ} {s : MSys σ} (inv : MInv m s) {r : SFrame} (hr : s.stream[s.dpos]? = some r)
    (g : SFrame) : MInv m ⟨push s.stream g, s.dpos + 1, s.insts⟩ :=
  minv_grow inv (idsOk_push inv.ids g) (Nat.le_succ _)
    (Nat.le_trans (List.getElem?_eq_some_iff.mp hr).1 (List.sublist_append_left ..).length_le)

/-- the serve loop starts a handler for the `.register` it has got to: `hl` says that, if it resumes
    from tail, nothing superseded it -/
theorem minv_start {m : MCfg σ} (hparse : ParseOk m.parse) {s : MSys σ} (inv : MInv m s) {r : SFrame}
    (hr : s.stream[s.dpos]? = some r) {cfg : HCfg} {resume : Resume} (hp : m.parse r = .ok (cfg, resume))
    (hl : resume = .tail → laterTraffic cfg s.stream = none) :
    MInv m ⟨push s.stream (registeredFrame cfg), s.dpos + 1,
      s.insts ++ [⟨cfg, resume, s.stream.length, 0, .running, m.env0 cfg⟩]⟩ := by
  have hrid := inv.ids _ _ hr
  have hid := (hparse _ cfg resume hp).1
  have g := minv_served inv hr (registeredFrame cfg)
  refine ⟨g.ids, g.dpos_le, fun y hy => ?_, ?_, fun y hy => ?_⟩
  · rcases List.mem_append.mp hy with hy | hy
    · exact instInv_grow (inv.insts y hy) _ (Nat.le_succ _) _
    · rw [List.mem_singleton.mp hy]
      refine ⟨(List.sublist_append_left ..).length_le,
        ⟨r, List.mem_append_left _ (List.mem_of_getElem? hr), hp, Nat.le_of_eq hrid⟩,
        fun ht f hf => ?_, Nat.zero_le _, fun _ f hf => (List.not_mem_nil hf).elim⟩
      rw [push, List.take_left] at hf
      exact laterTraffic_eq_none.mp (hl ht) f hf
  · rw [List.pairwise_append]
    refine ⟨inv.sorted, List.pairwise_singleton _ _, fun a ha b hb => ?_⟩
    rw [List.mem_singleton.mp hb]
    exact Nat.lt_of_le_of_lt (inv.passed a ha) (by rw [hid, hrid]; exact Nat.lt_succ_self _)
  · rcases List.mem_append.mp hy with hy | hy
    · exact g.passed y hy
    · rw [List.mem_singleton.mp hy]; exact Nat.le_of_eq (hid.trans hrid)

/-- instance `i` is handed the next frame of its subscription and appends what it emits -/
theorem minv_inst {m : MCfg σ} {s : MSys σ} (inv : MInv m s) {i : Nat} {x : Inst σ} (hx : s.insts[i]? = some x)
    {f : SFrame} (hf : (x.sub m.thr s.stream)[x.pos]? = some f) :
    MInv m ⟨pushAll s.stream (step x.cfg (m.eval x.cfg) x.st x.env f).2.2.1, s.dpos,
      s.insts.set i (x.advance (step x.cfg (m.eval x.cfg) x.st x.env f))⟩ := by
  have hxm := List.mem_of_getElem? hx
  obtain ⟨ext, hext⟩ := pushAll_prefix s.stream (step x.cfg (m.eval x.cfg) x.st x.env f).2.2.1
  rw [hext]
  have g := minv_grow (ext := ext) (d := s.dpos) inv (hext ▸ idsOk_pushAll inv.ids _) (Nat.le_refl _)
    (Nat.le_trans inv.dpos_le (List.sublist_append_left ..).length_le)
  refine ⟨g.ids, g.dpos_le, fun y hy => ?_, ?_, fun y hy => ?_⟩
  · rcases List.mem_or_eq_of_mem_set hy with hy | rfl
    · exact instInv_grow (inv.insts y hy) ext (Nat.le_refl _) _
    · exact instInv_advance (inv.insts x hxm) hf ext _
  · -- the list of handler ids has not changed
    obtain ⟨hil, rfl⟩ := List.getElem?_eq_some_iff.mp hx
    refine List.pairwise_map.mp ?_
    rw [List.map_set, Inst.advance_cfg,
      ← List.getElem_map (fun x : Inst σ => x.cfg.id) (h := (List.length_map ..).symm ▸ hil),
      List.set_getElem_self]
    exact List.pairwise_map.mpr inv.sorted
  · rcases List.mem_or_eq_of_mem_set hy with hy | rfl
    · exact inv.passed y hy
    · exact inv.passed x hxm

theorem mstep_inv {m : MCfg σ} (hparse : ParseOk m.parse) {s s' : MSys σ} {a : MAct} (inv : MInv m s)
    (e : mstep m s a = some s') : MInv m s' := by
  cases a with
  | client f =>
    cases e
    exact minv_grow inv (idsOk_push inv.ids f) (Nat.le_refl _)
      (Nat.le_trans inv.dpos_le (List.sublist_append_left ..).length_le)
  | serve =>
    rcases hr : s.stream[s.dpos]? with _ | r <;> simp only [mstep, hr] at e
    · cases e
    split at e
    next name _ =>
      rcases hp : m.parse r with err | ⟨cfg, resume⟩ <;> simp only [hp] at e
      · cases e; exact minv_served inv hr _
      split at e <;> cases e
      next => exact minv_served inv hr _
      next hl => exact minv_start hparse inv hr hp fun ht => by rwa [ht, if_pos rfl] at hl
    next =>
      cases e
      exact List.append_nil s.stream ▸ minv_grow (ext := []) inv ((List.append_nil _).symm ▸ inv.ids) (Nat.le_succ _)
        ((List.append_nil _).symm ▸ (List.getElem?_eq_some_iff.mp hr).1)
  | inst i =>
    rcases hx : s.insts[i]? with _ | x <;> simp only [mstep, hx] at e
    · cases e
    rcases hf : (x.sub m.thr s.stream)[x.pos]? with _ | f <;> simp only [hf] at e <;> cases e
    exact minv_inst inv hx hf

theorem mrun_induction {m : MCfg σ} {P : MSys σ → Prop} (hstep : ∀ {s a s'}, P s → mstep m s a = some s' → P s')
    {s s' : MSys σ} (h : P s) {as : List MAct} (e : mrun m s as = some s') : P s' := by
  induction as generalizing s with
  | nil => cases e; exact h
  | cons a as ih =>
    simp only [mrun] at e
    split at e
    next hs => exact ih (hstep h hs) e
    next => cases e

theorem mrun_inv {m : MCfg σ} (hparse : ParseOk m.parse) {s s' : MSys σ} (inv : MInv m s) {as : List MAct}
    (e : mrun m s as = some s') : MInv m s' :=
  mrun_induction (mstep_inv hparse) inv e

/-- a running instance that has been handed everything has seen no later `.register` /
    `.unregister` of its name and context: none is stored -/
theorem survivor_is_latest {m : MCfg σ} (hres : ResumeOk m.parse) {s : MSys σ} (inv : MInv m s) {x : Inst σ}
    (hx : x ∈ s.insts) (hrun : x.st = .running) (hc : x.caughtUp m.thr s.stream) :
    ∀ f ∈ s.stream, f.ctx = x.cfg.ctx → isRegTraffic x.cfg f = true → f.id ≤ x.cfg.id := by
  intro f hf hctx hreg
  have hxi := inv.insts x hx
  refine Nat.le_of_not_lt fun hlt => ?_
  -- a later one is in the subscription, hence was handed to it, hence it would be stopped
  have hin : f ∈ x.sub m.thr s.stream := by
    refine mem_subscription_of m.thr hctx ?_
    rw [← List.take_append_drop x.subAt s.stream, List.mem_append] at hf
    refine hf.symm.imp id fun hp => ⟨hp, fun ht => ?_, fun a ha => ?_⟩
    · rw [hxi.tail ht f hp hctx hlt] at hreg; cases hreg
    · obtain ⟨r, _, hp', _⟩ := hxi.reg
      exact Nat.lt_of_le_of_lt (hres r x.cfg a (ha ▸ hp')) hlt
  rw [← List.take_length (l := x.sub m.thr s.stream), ← show x.pos = _ from hc] at hin
  exact Nat.not_le_of_lt hlt (hxi.run hrun f hin hreg)

/-- C16, system level: of two instances of the same name and context, the earlier one is stopped once
    it has been handed everything its subscription holds -/
theorem one_running_per_key {m : MCfg σ} (hparse : ParseOk m.parse) (hres : ResumeOk m.parse) {s : MSys σ}
    (inv : MInv m s) {i j : Nat} {x y : Inst σ} (hi : s.insts[i]? = some x) (hj : s.insts[j]? = some y)
    (hij : i < j) (hctx : x.cfg.ctx = y.cfg.ctx) (hname : x.cfg.name = y.cfg.name)
    (hcx : x.caughtUp m.thr s.stream) : x.st = .stopped := by
  cases hst : x.st with
  | stopped => rfl
  | running =>
    obtain ⟨hil, rfl⟩ := List.getElem?_eq_some_iff.mp hi
    obtain ⟨hjl, rfl⟩ := List.getElem?_eq_some_iff.mp hj
    have hlt := List.pairwise_iff_getElem.mp inv.sorted i j hil hjl hij
    -- the later instance's `.register` is in the stream, and the earlier one would have met it
    obtain ⟨r, hr, hp, _⟩ := (inv.insts _ (List.getElem_mem hjl)).reg
    obtain ⟨hid, hrc, hcl⟩ := hparse r _ _ hp
    exact absurd (survivor_is_latest hres inv (List.getElem_mem hil) hst hcx r hr (by rw [hctx, hrc])
      (isRegTraffic_iff.mpr (.inl (hname ▸ hcl)))) (Nat.not_le_of_lt (hid ▸ hlt))

end Xs.Serve
