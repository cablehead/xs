/-
  The big-endian encoding and the three key layouts. Every key is a concatenation whose heads
  have a fixed width, so the byte order of each layout comes from one fact about such
  concatenations (`append_lt_append_iff`) and the order of `be`.
-/
import XsModel.Bytes
import XsProofs.ListAux
namespace Xs

theorem be_length (w n : Nat) : (be w n).length = w := by
  induction w generalizing n with
  | zero => simp [be]
  | succ w ih => simp [be, ih]

/-- the byte order on concatenations whose heads have the same length: heads first, then tails.
    Every key of the store is such a concatenation (ctx ‖ id, ctx ‖ topic ‖ 0 ‖ id). -/
theorem append_lt_append_iff {a b x y : List Nat} (hl : a.length = b.length) :
    a ++ x < b ++ y ↔ a < b ∨ (a = b ∧ x < y) := by
  induction a generalizing b with
  | nil => cases b with
    | nil => simp
    | cons _ _ => simp at hl
  | cons p a ih => cases b with
    | nil => simp at hl
    | cons q b =>
      simp only [List.cons_append, List.cons_lt_cons_iff, ih (Nat.succ.inj hl), List.cons.injEq, and_or_left,
        or_assoc, and_assoc]

theorem lt_append_of_lt_same_len {a b x y : List Nat} (hl : a.length = b.length) (h : a < b) :
    a ++ x < b ++ y := (append_lt_append_iff hl).2 (.inl h)

theorem append_lt_append_left_iff (a : List Nat) {x y : List Nat} : a ++ x < a ++ y ↔ x < y := by
  simp [append_lt_append_iff, List.lt_irrefl]

theorem div_lt_pow {w n : Nat} (hn : n < 256 ^ (w + 1)) : n / 256 < 256 ^ w :=
  Nat.div_lt_of_lt_mul (Nat.mul_comm .. ▸ hn)

theorem lt_iff_div_mod {b : Nat} (n m : Nat) :
    n < m ↔ n / b < m / b ∨ (n / b = m / b ∧ n % b < m % b) := by
  constructor
  · intro h
    refine (Nat.lt_or_eq_of_le (Nat.div_le_div_right (Nat.le_of_lt h))).imp_right fun h1 => ⟨h1, ?_⟩
    rw [← Nat.div_add_mod n b, ← Nat.div_add_mod m b, h1] at h
    exact Nat.lt_of_add_lt_add_left h
  · rintro (h | ⟨h1, h2⟩)
    · exact Nat.lt_of_div_lt_div h
    · rw [← Nat.div_add_mod n b, ← Nat.div_add_mod m b, h1]
      exact Nat.add_lt_add_left h2 _

theorem unbe_append_single (l : List Nat) (b : Nat) : unbe (l ++ [b]) = unbe l * 256 + b := by
  simp [unbe, List.foldl_append]

theorem unbe_be {w n : Nat} (hn : n < 256 ^ w) : unbe (be w n) = n := by
  induction w generalizing n with
  | zero => simp at hn; subst hn; rfl
  | succ w ih => rw [be, unbe_append_single, ih (div_lt_pow hn), Nat.mul_comm, Nat.div_add_mod]

theorem be_inj_iff {w n m : Nat} (hn : n < 256 ^ w) (hm : m < 256 ^ w) : be w n = be w m ↔ n = m :=
  ⟨fun h => by rw [← unbe_be hn, h, unbe_be hm], congrArg _⟩

theorem be_lt_iff {w n m : Nat} (hn : n < 256 ^ w) (hm : m < 256 ^ w) : be w n < be w m ↔ n < m := by
  induction w generalizing n m with
  | zero => simp at hn hm; simp [hn, hm, be]
  | succ w ih =>
    have hn' := div_lt_pow hn
    have hm' := div_lt_pow hm
    simp only [be, append_lt_append_iff ((be_length ..).trans (be_length ..).symm), ih hn' hm', be_inj_iff hn' hm',
      List.cons_lt_cons_iff, List.lt_irrefl, and_false, or_false]
    exact (lt_iff_div_mod n m).symm

theorem be_lt {w n m : Nat} (hn : n < 256 ^ w) (hm : m < 256 ^ w) (h : n < m) : be w n < be w m :=
  (be_lt_iff hn hm).2 h

theorem idBound_eq : idBound = 256 ^ 16 := rfl

/-- `id.to_u128() + 1` does not saturate when `c + 1 < 2^128` -/
theorem ctxRangeEnd_of_lt {c : Nat} (h : c + 1 < idBound) : ctxRangeEnd c = be 16 (c + 1) := by
  simp [ctxRangeEnd, h]

theorem idOfCtxKey_ctxKey {c i : Nat} (hi : i < idBound) : idOfCtxKey (ctxKey c i) = i := by
  unfold idOfCtxKey ctxKey
  rw [List.drop_left' (be_length 16 c)]
  exact unbe_be hi

theorem topicKey_length (c : Nat) (t : List Nat) (i : Nat) :
    (topicKey c t i).length = 16 + (t.length + 1) + 16 := by
  simp [topicKey, topicPrefix, be_length, Nat.add_assoc]

theorem idOfTopicKey_topicKey {c i : Nat} {t : List Nat} (hi : i < idBound) :
    idOfTopicKey (topicKey c t i) = i := by
  rw [idOfTopicKey, topicKey_length, topicKey, List.drop_left' (by simp [topicPrefix, be_length]), unbe_be hi]

theorem ctxKey_length (c i : Nat) : (ctxKey c i).length = 32 := by simp [ctxKey, be_length]

theorem ctxKey_inj {c c' i i' : Nat} (hc : c < idBound) (hc' : c' < idBound) (hi : i < idBound)
    (hi' : i' < idBound) (h : ctxKey c i = ctxKey c' i') : c = c' ∧ i = i' := by
  obtain ⟨h1, h2⟩ := List.append_inj h ((be_length ..).trans (be_length ..).symm)
  exact ⟨(be_inj_iff hc hc').1 h1, (be_inj_iff hi hi').1 h2⟩

/-- order of `idx_context` keys: context first, then id -/
theorem ctxKey_lt_iff {c c' i i' : Nat} (hc : c < idBound) (hc' : c' < idBound) (hi : i < idBound)
    (hi' : i' < idBound) : ctxKey c i < ctxKey c' i' ↔ c < c' ∨ (c = c' ∧ i < i') := by
  rw [ctxKey, ctxKey, append_lt_append_iff ((be_length ..).trans (be_length ..).symm), be_lt_iff hc hc',
    be_lt_iff hi hi', be_inj_iff hc hc']

/-- an `idx_context` key against a bare context prefix (the bounds of a context-scoped scan) -/
theorem ctxKey_lt_be {c c' i : Nat} (hc : c < idBound) (hc' : c' < idBound) :
    ctxKey c i < be 16 c' ↔ c < c' := by
  have := append_lt_append_iff (x := be 16 i) (y := []) ((be_length 16 c).trans (be_length 16 c').symm)
  rw [List.append_nil] at this
  simp [ctxKey, this, be_lt_iff hc hc']

theorem topic_prefix_exact {t t' r : List Nat} (ht : NulFree t) (ht' : NulFree t') :
    (t ++ [0]) <+: (t' ++ 0 :: r) ↔ t = t' := by
  refine ⟨fun ⟨s, hs⟩ => ?_, fun e => e ▸ ⟨r, by simp⟩⟩
  rw [List.append_assoc, List.singleton_append] at hs
  -- one topic extends the other, and the extension would begin with the other's NUL
  rcases List.append_eq_append_iff.1 hs with ⟨_ | ⟨x, a⟩, rfl, h⟩ | ⟨_ | ⟨x, a⟩, rfl, h⟩
  · simp
  · cases (List.cons.inj h).1; exact absurd rfl (ht' 0 (by simp))
  · simp
  · cases (List.cons.inj h).1; exact absurd rfl (ht 0 (by simp))

/-- the prefix scan `ctx‖topic‖0x00` selects exactly the keys of that context and topic -/
theorem topicPrefix_isPrefixOf_topicKey {c c' i : Nat} {t t' : List Nat}
    (hc : c < idBound) (hc' : c' < idBound) (ht : NulFree t) (ht' : NulFree t') :
    (topicPrefix c t).isPrefixOf (topicKey c' t' i) = true ↔ c = c' ∧ t = t' := by
  rw [List.isPrefixOf_iff_prefix]
  have e : topicKey c' t' i = be 16 c' ++ (t' ++ 0 :: be 16 i) := by
    simp [topicKey, topicPrefix]
  rw [e, topicPrefix, prefix_append_of_length (by simp [be_length]), topic_prefix_exact ht ht',
    be_inj_iff hc hc']

theorem topicKey_lt_iff {c i i' : Nat} {t : List Nat} (hi : i < idBound) (hi' : i' < idBound) :
    topicKey c t i < topicKey c t i' ↔ i < i' := by
  unfold topicKey
  rw [append_lt_append_left_iff, be_lt_iff hi hi']

theorem topicKey_inj {c c' i i' : Nat} {t t' : List Nat} (hc : c < idBound) (hc' : c' < idBound)
    (hi : i < idBound) (hi' : i' < idBound) (ht : NulFree t) (ht' : NulFree t')
    (h : topicKey c t i = topicKey c' t' i') : c = c' ∧ t = t' ∧ i = i' := by
  have hp : (topicPrefix c t).isPrefixOf (topicKey c' t' i') = true :=
    h ▸ List.isPrefixOf_iff_prefix.2 (List.prefix_append ..)
  obtain ⟨rfl, rfl⟩ := (topicPrefix_isPrefixOf_topicKey hc hc' ht ht').1 hp
  exact ⟨rfl, rfl, (be_inj_iff hi hi').1 (List.append_cancel_left h)⟩

theorem idKey_lt_iff {i i' : Nat} (hi : i < idBound) (hi' : i' < idBound) :
    idKey i < idKey i' ↔ i < i' := be_lt_iff hi hi'

theorem idKey_inj {i i' : Nat} (hi : i < idBound) (hi' : i' < idBound) (h : idKey i = idKey i') :
    i = i' := (be_inj_iff hi hi').1 h

end Xs
