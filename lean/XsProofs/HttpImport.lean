/-
  An import session over HTTP (`.import` of xs.nu: `POST /cas` for every piece of content,
  `POST /import` for every frame): whatever the order and the interleaving of the two kinds of
  request, the store ends up as `importAll` of the frames in the order they were sent, and the
  content store as the fold of the contents - neither looks at the other.
-/
import XsModel.Route
import XsProofs.Import
namespace Xs.Http

/-- one item of an import session -/
inductive Item where
  | frame (f : Frame)
  | content (hash : String) (bytes : List Nat)
  deriving Repr

def Item.request : Item → Request
  | .frame f => { method := .post, path := sImport, query := none, importBody := .frame f }
  | .content h b => { method := .post, path := sCas, query := none, body := b, bodyHash := h }

def Item.frame? : Item → Option Frame
  | .frame f => some f
  | .content _ _ => none

def Item.content? : Item → Option (String × List Nat)
  | .frame _ => none
  | .content h b => some (h, b)

/-- the server after the items have been posted one after another -/
def session (s : Srv) (items : List Item) : Srv := items.foldl (fun s it => (handle s it.request).1) s

/-- `POST /cas`, seen from the content store (an empty body is refused) -/
def casStep (c : List (String × List Nat)) (hb : String × List Nat) : List (String × List Nat) :=
  if hb.2.isEmpty then c else casPut c hb.1 hb.2

theorem handle_frame (s : Srv) (f : Frame) :
    (handle s (Item.frame f).request).1 = { s with store := s.store.step (.importF f) } := by
  dsimp only [handle, handleImport, handleImportRead, Item.request, State.step]
  cases s.store.insertFrame f <;> rfl

theorem handle_content (s : Srv) (h : String) (b : List Nat) :
    (handle s (Item.content h b).request).1 = { s with cas := casStep s.cas (h, b) } := by
  dsimp only [handle, handleCasPost, handleCasPostRead, Item.request, casStep]
  cases b.isEmpty <;> rfl

theorem session_eq (s : Srv) (items : List Item) :
    session s items = { store := s.store.importAll (items.filterMap Item.frame?),
                        cas := (items.filterMap Item.content?).foldl casStep s.cas } := by
  induction items generalizing s with
  | nil => rfl
  | cons it rest ih =>
    rw [session, List.foldl_cons, ← session]
    cases it with
    | frame f => rw [handle_frame, ih]; rfl
    | content h b => rw [handle_content, ih]; rfl

/-- the store after a session: the frames, in the order they were sent; the content requests
    in between do not matter -/
theorem session_store (s : Srv) (items : List Item) :
    (session s items).store = s.store.importAll (items.filterMap Item.frame?) :=
  congrArg Srv.store (session_eq s items)

/-- the content store after a session: the contents, in the order they were sent; the frames in
    between do not matter - in particular a frame may arrive before its content -/
theorem session_cas (s : Srv) (items : List Item) :
    (session s items).cas = (items.filterMap Item.content?).foldl casStep s.cas :=
  congrArg Srv.cas (session_eq s items)

end Xs.Http
