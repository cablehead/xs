/-
  Import (`POST /import` = insert_frame) over whole lists of frames: order independence,
  idempotence, round trip.
-/
import XsProofs.History
namespace Xs
attribute [local irreducible] be unbe

/-- import a list of frames one after another (frames that cannot be stored are rejected whole
    and leave the state as it was) -/
def State.importAll (s : State) (l : List Frame) : State := l.foldl (fun s f => s.step (.importF f)) s

/-- a frame the import path can store -/
def Importable (f : Frame) : Prop := f.id < idBound ∧ f.ctx < idBound ∧ NulFree f.topic ∧ f.decodable = true

theorem Importable.wf {f : Frame} (hf : Importable f) : WfFrame f := ⟨hf.1, hf.2.1, hf.2.2.1, hf.2.2.2⟩

theorem WfFrame.importable {f : Frame} (w : WfFrame f) : Importable f := ⟨w.id_lt, w.ctx_lt, w.nul, w.dec⟩

theorem step_import_ok {s : State} {f : Frame} (hf : Importable f) :
    s.step (.importF f) = s.insertFrameCore f := by
  simp only [State.step, insertFrame_accepts hf.2.2.2 (hasNul_eq_false_iff.2 hf.2.2.1)]

theorem importAll_inv {s : State} (h : Inv s) (l : List Frame) (hl : ∀ f ∈ l, Importable f) :
    Inv (s.importAll l) :=
  List.foldlRecOn (motive := Inv) l _ h fun _ h f hf => step_import_ok (hl f hf) ▸ insertFrameCore_inv h (hl f hf).wf

theorem frames_ext {s₁ s₂ : State} (h₁ : InvK s₁) (h₂ : InvK s₂) (h : ∀ g, g ∈ frames s₁ ↔ g ∈ frames s₂) :
    frames s₁ = frames s₂ :=
  eq_of_pairwise_of_mem_iff Nat.lt_asymm (frames_sorted h₁) (frames_sorted h₂) h

/-- frames after importing a list with pairwise distinct ids: the list, plus whatever was
    stored under other ids -/
theorem mem_frames_importAll {s : State} (h : Inv s) (l : List Frame)
    (hl : ∀ f ∈ l, Importable f) (hd : l.Pairwise (fun a b => a.id ≠ b.id)) (g : Frame) :
    g ∈ frames (s.importAll l) ↔ g ∈ l ∨ (g ∈ frames s ∧ ∀ f ∈ l, f.id ≠ g.id) := by
  induction l generalizing s with
  | nil => simp [State.importAll]
  | cons a l ih =>
    rw [List.forall_mem_cons] at hl
    obtain ⟨hda, hdl⟩ := List.pairwise_cons.1 hd
    rw [State.importAll, List.foldl_cons, step_import_ok hl.1, ← State.importAll,
      ih (insertFrameCore_inv h hl.1.wf) hl.2 hdl, mem_frames_insertFrameCore h hl.1.1]
    simp only [List.mem_cons, forall_eq_or_imp]
    constructor
    · rintro (hg | ⟨rfl | ⟨hg, hne⟩, hall⟩)
      · exact .inl (.inr hg)
      · exact .inl (.inl rfl)
      · exact .inr ⟨hg, Ne.symm hne, hall⟩
    · rintro ((rfl | hg) | ⟨hg, hne, hall⟩)
      · exact .inr ⟨.inl rfl, fun f hf => (hda f hf).symm⟩
      · exact .inl hg
      · exact .inr ⟨.inr ⟨hg, Ne.symm hne⟩, hall⟩

theorem mem_frames_importAll_init {l : List Frame} (hl : ∀ f ∈ l, Importable f)
    (hd : l.Pairwise (fun a b => a.id ≠ b.id)) (g : Frame) : g ∈ frames (State.init.importAll l) ↔ g ∈ l :=
  (mem_frames_importAll inv_init l hl hd g).trans (or_iff_left fun h => List.not_mem_nil h.1)

theorem contexts_of_frames {s₁ s₂ : State} (h₁ : Inv s₁) (h₂ : Inv s₂)
    (e : frames s₁ = frames s₂) (c : Nat) : c ∈ s₁.contexts ↔ c ∈ s₂.contexts := by
  rw [h₁.c.iff, h₂.c.iff, e]

/-- C20 round trip: importing every stored frame of `s`, in any order, into an empty store
    reproduces the stored frames (ids, order, topics, contexts, metas, hashes, ttls) and the
    usable contexts -/
theorem export_import_roundtrip {s : State} (h : Inv s) {l : List Frame}
    (hp : l.Perm (frames s)) :
    frames (State.init.importAll l) = frames s ∧
    ∀ c, c ∈ (State.init.importAll l).contexts ↔ c ∈ s.contexts := by
  have hl : ∀ f ∈ l, Importable f := fun f hf => (h.k.wfFrame (hp.mem_iff.1 hf)).importable
  have hd := hp.symm.pairwise ((frames_sorted h.k).imp Nat.ne_of_lt) (fun h => Ne.symm h)
  have hI := importAll_inv inv_init l hl
  have e := frames_ext hI.k h.k fun g => (mem_frames_importAll_init hl hd g).trans hp.mem_iff
  exact ⟨e, contexts_of_frames hI h e⟩

/-- importing a frame that is already stored identically changes nothing observable -/
theorem import_idempotent {s : State} (h : Inv s) {f : Frame} (hf : f ∈ frames s) :
    frames (s.step (.importF f)) = frames s ∧
    ∀ c, c ∈ (s.step (.importF f)).contexts ↔ c ∈ s.contexts := by
  have w := h.k.wfFrame hf
  rw [step_import_ok w.importable]
  have hI := insertFrameCore_inv h w
  have e := frames_ext hI.k h.k fun g => by
    rw [mem_frames_insertFrameCore h w.id_lt]
    exact ⟨fun h' => h'.elim (· ▸ hf) (·.1), fun hg => (Classical.em (g.id = f.id)).imp
      (h.k.frame_unique hg hf) (⟨hg, ·⟩)⟩
  exact ⟨e, contexts_of_frames hI h e⟩

/-- two stores with the same stored frames answer every read, lookup and head alike -/
theorem observably_equal {s₁ s₂ : State} (h₁ : InvK s₁) (h₂ : InvK s₂) (e : frames s₁ = frames s₂) :
    (∀ ctx last limit now, WfRead ctx last →
      (s₁.readSync ctx last limit now).2 = (s₂.readSync ctx last limit now).2 ∧
      (s₁.readHist ctx last limit now).2 = (s₂.readHist ctx last limit now).2) ∧
    (∀ i, i < idBound → s₁.get i = s₂.get i) ∧
    (∀ t c, c < idBound → s₁.head t c = s₂.head t c) := by
  refine ⟨fun ctx last limit now wr => ?_, fun i hi => Option.ext fun f => ?_, fun t c hc => ?_⟩
  · rw [readSync_spec h₁ wr, readSync_spec h₂ wr, readHist_spec h₁ wr, readHist_spec h₂ wr]
    simp [liveHistory, e]
  · rw [get_spec h₁ hi, get_spec h₂ hi, e]
  · cases ht : hasNul t
    · have ht' := hasNul_eq_false_iff.1 ht
      rw [head_spec h₁ ht' hc, head_spec h₂ ht' hc, topicFrames, topicFrames, e]
    · rw [head_nul ht, head_nul ht]

end Xs
