/-
  `decodeFrame` reads an object only through six `lookup`s. Its `match`es on the three optional
  fields are named here, so that each field can be reasoned about on its own.
-/
import XsModel.Json
import XsProofs.Query
namespace Xs.Wire

def decOpt {α : Type} (k : Text) (g : Text → Except FErr (Option α)) : Option J → Except FErr (Option α)
  | none => .ok none
  | some .null => .ok none
  | some (.str s) => g s
  | some _ => .error (.badType k)

def decMeta : Option J → Option J
  | none => none
  | some .null => none
  | some m => some m

/- The two sides differ only in which compiled `match` they call, and `rfl` unfolds a `match`
   that is stuck on a variable only with smart unfolding off. -/
set_option smartUnfolding false in
theorem decodeFrame_obj {hs : HashSpec} {kvs : List (Text × J)} {topic c i : Text} {ctx id : Nat}
    (hd : (J.obj kvs).depth ≤ maxDepth)
    (h1 : lookup kTopic kvs = some (.str topic)) (h2 : lookup kCtx kvs = some (.str c))
    (h3 : lookup kId kvs = some (.str i)) (hc : parseId c = some ctx) (hi : parseId i = some id) :
    decodeFrame hs (.obj kvs) = (do
      let h ← decOpt kHash (fun h => if hs.valid h then .ok (some h) else .error .badHash) (lookup kHash kvs)
      let t ← decOpt kTtl (fun t => match parseTTL t with | .ok t => .ok (some t) | .err _ => .error .badTtl)
        (lookup kTtl kvs)
      pure ⟨topic, ctx, id, h, decMeta (lookup kMeta kvs), t⟩) := by
  unfold decodeFrame
  simp only [if_neg (Nat.not_lt.2 hd), h1, h2, h3, hc, hi]
  rfl

theorem decOpt_optJ {α : Type} {k : Text} {g : Text → Except FErr (Option α)} {sh : α → Text} {o : Option α}
    (h : ∀ x, o = some x → g (sh x) = .ok (some x)) :
    decOpt k g (some (optJ (o.map fun x => .str (sh x)))) = .ok o := by
  cases o with
  | none => rfl
  | some x => exact h x rfl

theorem decMeta_optJ {o : Option J} (h : o ≠ some .null) : decMeta (some (optJ o)) = o := by
  cases o with
  | none => rfl
  | some m => cases m with
    | null => exact absurd rfl h
    | _ => rfl

/-- Any object whose six lookups are those of `f` decodes to `f`: order, repeated and unknown
    keys do not matter. -/
theorem decodeFrame_of_lookups {hs : HashSpec} {f : WFrame} {kvs : List (Text × J)} (w : WfWFrame hs f)
    (hd : (J.obj kvs).depth ≤ maxDepth)
    (h1 : lookup kTopic kvs = some (.str f.topic)) (h2 : lookup kCtx kvs = some (.str (showId f.ctx)))
    (h3 : lookup kId kvs = some (.str (showId f.id))) (h4 : lookup kHash kvs = some (optJ (f.hash.map .str)))
    (h5 : lookup kMeta kvs = some (optJ f.mdata))
    (h6 : lookup kTtl kvs = some (optJ (f.ttl.map fun t => .str (printTTL t)))) :
    decodeFrame hs (.obj kvs) = .ok f := by
  rw [decodeFrame_obj hd h1 h2 h3 (parseId_showId w.ctx_lt) (parseId_showId w.id_lt), h4, h5, h6,
    decOpt_optJ (sh := fun h => h) fun h e => if_pos (w.hash_ok h e),
    decOpt_optJ fun t e => by rw [parseTTL_printTTL t (w.ttl_wf t e)],
    decMeta_optJ w.meta_not_null]
  rfl

theorem decodeFrame_tooDeep (hs : HashSpec) {j : J} (h : maxDepth < j.depth) :
    decodeFrame hs j = .error .tooDeep := if_pos h

theorem depth_optJ_map {α : Type} (o : Option α) (e : α → J) (h : ∀ x, (e x).depth = 0) :
    (optJ (o.map e)).depth = 0 := by
  cases o with
  | none => rfl
  | some x => exact h x

theorem depth_encodeFrame (f : WFrame) : (encodeFrame f).depth = 1 + (optJ f.mdata).depth := by
  simp only [encodeFrame, J.depth, depthKvs, depth_optJ_map f.hash .str fun _ => rfl,
    depth_optJ_map f.ttl (fun t => .str (printTTL t)) fun _ => rfl, Nat.zero_max, Nat.max_zero]

/-- a JSON value that does not round-trip, as a kernel-checked fact: meta = `Some(null)` reads back
    as no meta (F24) -/
theorem meta_null_reads_back_as_none :
    (decodeFrame ⟨fun _ => true⟩ (encodeFrame { topic := [], ctx := 0, id := 0, hash := none, mdata := some .null, ttl := none })).toOption.map
      (fun f => f.mdata.isNone) = some true := by
  decide +kernel

/-- `n + 1` nested arrays: the meta value with which `C12.deep_meta_undecodable` shows that a frame
    can serialise and yet not parse back (F13) -/
def nest : Nat → J
  | 0 => .arr []
  | n+1 => .arr [nest n]

theorem depth_nest (n : Nat) : (nest n).depth = n + 1 := by
  induction n with
  | zero => rfl
  | succ n ih => rw [nest, J.depth, depthList, depthList, ih, Nat.max_zero, Nat.add_comm]

end Xs.Wire
