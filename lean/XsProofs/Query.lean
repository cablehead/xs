/-
  Ids: 25 base-36 digits, most significant first (`parseId_showId`).
  Text layer: only plain text is treated, which the percent-encoder and the decoder both leave
  alone, so a rendered query splits back into its pairs.  Options: `optsPairs o` is the
  concatenation of the pairs of five one-field records (`optsPairs_split`), and each of these, run
  from an accumulator in which its field is still empty, sets that field and no other
  (`accRun_follow` … `accRun_limit`); `accRun_append` chains them.
-/
import XsModel.Query
import XsProofs.Ttl
namespace Xs.Wire

/-- the digit alphabet is a table of 36 entries: checked entry by entry -/
theorem b36_digit : ∀ d < 36, b36Val (b36Char d) = some d ∧ plainChar (b36Char d) = true := by
  decide +kernel

theorem showB36_length (w n : Nat) : (showB36 w n).length = w := by
  induction w generalizing n with
  | zero => rfl
  | succ w ih => simp [showB36, ih]

theorem parseB36_showB36 {w n : Nat} (h : n < 36 ^ w) : parseB36 (showB36 w n) = some n := by
  induction w generalizing n with
  | zero => cases Nat.lt_one_iff.1 h; rfl
  | succ w ih =>
    rw [showB36, parseB36, List.foldl_append, ← parseB36,
      ih (Nat.div_lt_of_lt_mul (Nat.mul_comm .. ▸ Nat.pow_succ .. ▸ h))]
    simp only [List.foldl, b36Step, (b36_digit _ (Nat.mod_lt n (by decide))).1, Nat.div_add_mod']

/-- C12: ids survive their 25-character text form -/
theorem parseId_showId {n : Nat} (h : n < 2 ^ 128) : parseId (showId n) = some n := by
  simp [parseId, showId, showB36_length, parseB36_showB36 (Nat.lt_trans h (by decide : 2 ^ 128 < 36 ^ 25)), h]

def Plain (s : Text) : Prop := ∀ c ∈ s, plainChar c = true

instance (s : Text) : Decidable (Plain s) := by unfold Plain; infer_instance

theorem pctEncode_plain {s : Text} (h : Plain s) : pctEncode s = s := by
  induction s with
  | nil => rfl
  | cons c r ih =>
    obtain ⟨hc, hr⟩ := List.forall_mem_cons.1 h
    simp [pctEncode, hc, ih hr]

theorem plain_ne {s : Text} (h : Plain s) (d : Nat) (hd : plainChar d = false) : ∀ c ∈ s, c ≠ d := by
  intro c hc e; subst e; rw [h c hc] at hd; cases hd

theorem pctDecode_plain {s : Text} (h : Plain s) : pctDecode s = s := by
  induction s with
  | nil => rfl
  | cons c r ih =>
    obtain ⟨hc, hr⟩ := List.forall_mem_cons.1 h
    -- the two escape patterns need `c = 43` (`+`) or `c = 37` (`%`)
    rw [pctDecode, ih hr]
    · rintro rfl; exact absurd hc (by decide)
    · rintro _ _ _ rfl; exact absurd hc (by decide)

theorem splitKV_join {k v : Text} (hk : ∀ c ∈ k, c ≠ 61) : splitKV (k ++ 61 :: v) = (k, v) := by
  induction k with
  | nil => simp [splitKV]
  | cons c r ih => obtain ⟨hc, hr⟩ := List.forall_mem_cons.1 hk; simp [splitKV, hc, ih hr]

theorem splitOn_no_sep {sep : Nat} {s : Text} (h : ∀ c ∈ s, c ≠ sep) : splitOn sep s = [s] := by
  induction s with
  | nil => rfl
  | cons c r ih => obtain ⟨hc, hr⟩ := List.forall_mem_cons.1 h; simp [splitOn, hc, ih hr]

theorem splitOn_join {sep : Nat} {a : Text} (rest : Text) (h : ∀ c ∈ a, c ≠ sep) :
    splitOn sep (a ++ sep :: rest) = a :: splitOn sep rest := by
  induction a with
  | nil => simp [splitOn]
  | cons c r ih => obtain ⟨hc, hr⟩ := List.forall_mem_cons.1 h; simp [splitOn, hc, ih hr]

/-- keys and values made of characters the serializer leaves alone -/
def PlainPair (kv : Text × Text) : Prop := Plain kv.1 ∧ Plain kv.2

theorem renderPair_plain {kv : Text × Text} (h : PlainPair kv) :
    (∀ c ∈ renderPair kv, c ≠ 38) ∧ renderPair kv ≠ [] ∧ splitKV (renderPair kv) = kv := by
  rw [renderPair, pctEncode_plain h.1, pctEncode_plain h.2, List.append_assoc]
  exact ⟨List.forall_mem_append.2 ⟨plain_ne h.1 38 (by decide),
    List.forall_mem_cons.2 ⟨by decide, plain_ne h.2 38 (by decide)⟩⟩, by simp, splitKV_join (plain_ne h.1 61 (by decide))⟩

/-- C12: a list of plain key/value pairs survives render → parse -/
theorem parseQuery_renderQuery (ps : List (Text × Text)) (h : ∀ kv ∈ ps, PlainPair kv) :
    parseQuery (renderQuery ps) = ps := by
  induction ps using renderQuery.induct with
  | case1 => rfl
  | case2 kv =>
    have hp := h kv (by simp)
    obtain ⟨h1, h2, h3⟩ := renderPair_plain hp
    simp [renderQuery, parseQuery, splitOn_no_sep h1, h2, h3, pctDecode_plain hp.1, pctDecode_plain hp.2]
  | case3 kv rest hne ih =>
    obtain ⟨hp, hr⟩ := List.forall_mem_cons.1 h
    obtain ⟨h1, h2, h3⟩ := renderPair_plain hp
    have := ih hr
    rw [parseQuery] at this
    rw [renderQuery, parseQuery, List.append_assoc, List.singleton_append, splitOn_join _ h1]
    · simp [h2, h3, this, pctDecode_plain hp.1, pctDecode_plain hp.2]
    · exact hne

theorem plain_showNat (n : Nat) : Plain (showNat n) := fun c hc => by
  have hd := List.all_eq_true.1 (showNat_digits n) c hc
  simp only [isDigit, decide_eq_true_eq] at hd
  simp [plainChar, hd]

theorem plain_showB36 (w n : Nat) : Plain (showB36 w n) := by
  induction w generalizing n with
  | zero => exact nofun
  | succ w ih =>
    exact List.forall_mem_append.2 ⟨ih _, List.forall_mem_singleton.2 (b36_digit _ (Nat.mod_lt _ (by decide))).2⟩

theorem optsPairs_plain (o : ReadOpts) : ∀ kv ∈ optsPairs o, PlainPair kv := by
  -- each of the five pieces is empty or one pair of a constant key and a printed value
  have one {k v : Text} (hk : Plain k) (hv : Plain v) : ∀ kv ∈ [(k, v)], PlainPair kv :=
    List.forall_mem_singleton.2 ⟨hk, hv⟩
  simp only [optsPairs, List.forall_mem_append]
  refine ⟨⟨⟨⟨?_, ?_⟩, ?_⟩, ?_⟩, ?_⟩ <;> split
  · exact nofun
  · exact one (by decide) (by decide)
  · exact one (by decide) (plain_showNat _)
  · exact one (by decide) (plain_showB36 25 _)
  · exact nofun
  · exact one (by decide) (by decide)
  · exact nofun
  · exact one (by decide) (plain_showB36 25 _)
  · exact nofun
  · exact one (by decide) (plain_showNat _)
  · exact nofun

theorem parseFollow_showNat {ms : Nat} (h : ms ≤ u64Max) : parseFollow (showNat ms) = some (.heartbeat ms) := by
  have h2 : showNat ms ≠ sYes := fun e => absurd (e ▸ showNat_digits ms) (by decide)
  simp [parseFollow, showNat_ne_nil, h2, parseUnsigned_showNat h]

theorem accRun_append (a : Acc) (l1 l2 : List (Text × Text)) :
    accRun a (l1 ++ l2) = (match accRun a l1 with | .ok a' => accRun a' l2 | .err e => .err e) := by
  induction l1 generalizing a with
  | nil => rfl
  | cons kv rest ih =>
    simp only [List.cons_append, accRun]
    cases accStep a kv <;> simp [ih]

theorem optsPairs_split (o : ReadOpts) : optsPairs o =
    optsPairs { follow := o.follow } ++ optsPairs { contextId := o.contextId } ++
      optsPairs { tail := o.tail } ++ optsPairs { lastId := o.lastId } ++ optsPairs { limit := o.limit } := by
  simp only [optsPairs, List.append_nil, List.nil_append, Bool.false_eq_true, ↓reduceIte]

theorem keys_ne : kTail ≠ kFollow ∧ kLastId ≠ kFollow ∧ kLastId ≠ kTail ∧ kLimit ≠ kFollow ∧ kLimit ≠ kTail ∧
    kLimit ≠ kLastId ∧ kContextId ≠ kFollow ∧ kContextId ≠ kTail ∧ kContextId ≠ kLastId ∧
    kContextId ≠ kLimit := by decide +kernel

theorem accRun_follow (a : Acc) (h : a.follow = none) (f : FollowOpt) (w : ∀ ms, f = .heartbeat ms → ms ≤ u64Max) :
    ∃ x, accRun a (optsPairs { follow := f }) = .ok { a with follow := x } ∧ x.getD .off = f := by
  cases a; cases h
  cases f with
  | off => exact ⟨none, rfl, rfl⟩
  | on => exact ⟨some .on, rfl, rfl⟩
  | heartbeat ms =>
    exact ⟨some (.heartbeat ms), by simp [optsPairs, accRun, accStep, parseFollow_showNat (w ms rfl)], rfl⟩

theorem accRun_tail (a : Acc) (h : a.tail = none) (t : Bool) :
    ∃ x, accRun a (optsPairs { tail := t }) = .ok { a with tail := x } ∧ x.getD false = t := by
  cases a; cases h
  cases t with
  | false => exact ⟨none, rfl, rfl⟩
  | true => exact ⟨some true, rfl, rfl⟩

theorem accRun_contextId (a : Acc) (h : a.contextId = none) (x : Option Nat) (w : ∀ i, x = some i → i < 2 ^ 128) :
    accRun a (optsPairs { contextId := x }) = .ok { a with contextId := x } := by
  cases x with
  | none => cases a; cases h; rfl
  | some i => simp [optsPairs, accRun, accStep, h, keys_ne, parseId_showId (w i rfl)]

theorem accRun_lastId (a : Acc) (h : a.lastId = none) (x : Option Nat) (w : ∀ i, x = some i → i < 2 ^ 128) :
    accRun a (optsPairs { lastId := x }) = .ok { a with lastId := x } := by
  cases x with
  | none => cases a; cases h; rfl
  | some i => simp [optsPairs, accRun, accStep, h, keys_ne, parseId_showId (w i rfl)]

theorem accRun_limit (a : Acc) (h : a.limit = none) (x : Option Nat) (w : ∀ n, x = some n → n ≤ u64Max) :
    accRun a (optsPairs { limit := x }) = .ok { a with limit := x } := by
  cases x with
  | none => cases a; cases h; rfl
  | some n => simp [optsPairs, accRun, accStep, h, keys_ne, parseUnsigned_showNat (w n rfl)]

/-- the accepted oddities of `fromQuery`, made explicit -/
theorem tail_anything_is_true : fromQuery (kTail ++ [61, 120]) = .ok { tail := true } := by decide +kernel
theorem unknown_key_ignored : fromQuery ([120, 61, 49]) = .ok {} := by decide +kernel

end Xs.Wire
