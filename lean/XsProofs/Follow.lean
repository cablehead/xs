/-
  Invariants of the append / follow LTS (XsModel/Follow.lean).

  `step` and `stepReader` are first turned into relations (`Step`, `RStep`): one constructor per
  way an action can fire, carrying its guard and the successor state.  Every preservation proof
  below is a case analysis on one of the two; it is written `induction e`, not `cases e`, because
  the indices are variables there and the recursor then applies as it stands, which is cheaper to
  check than the index equations `cases` sets up and solves.
-/
import XsModel.Follow
import XsProofs.ListAux
namespace Xs.Follow

def idsLt (l : List Frame) (n : Nat) : Prop := ∀ f ∈ l, f.id < n
def idsLe (l : List Frame) (n : Nat) : Prop := ∀ f ∈ l, f.id ≤ n
def Sorted (l : List Frame) : Prop := l.Pairwise (fun a b => a.id < b.id)

theorem idsLe_snoc {l : List Frame} {f : Frame} {n : Nat} : idsLe (l ++ [f]) n ↔ idsLe l n ∧ f.id ≤ n := by
  simp [idsLe, or_imp, forall_and]

theorem sorted_snoc {l : List Frame} {f : Frame} : Sorted (l ++ [f]) ↔ Sorted l ∧ idsLt l f.id := by
  simp [Sorted, idsLt, List.pairwise_append]

theorem idsLt.le {l : List Frame} {n : Nat} (h : idsLt l n) : idsLe l n := fun f hf => Nat.le_of_lt (h f hf)
theorem idsLe.lt_of_lt {l : List Frame} {n m : Nat} (h : idsLe l n) (hm : n < m) : idsLt l m :=
  fun f hf => Nat.lt_of_le_of_lt (h f hf) hm
theorem idsLe.mono {l : List Frame} {n m : Nat} (h : idsLe l n) (hm : n ≤ m) : idsLe l m :=
  fun f hf => Nat.le_trans (h f hf) hm

/-- the live task's delivery test -/
def livePass (r : Reader) (f : Frame) : Bool := inScope r.opts.ctx f && !dupOfHistory r.dedupe f

/-- stored frames the scan is responsible for: in scope and after `last-id` -/
def scanScope (r : Reader) (f : Frame) : Bool := inScope r.opts.ctx f && afterId r.opts.last f

inductive RStep (c : List Frame) (r : Reader) : RAct → Reader → Prop
  | histSend (f : Frame) : r.hphase = .scanning → nextFrame c r.opts.ctx r.cursor = some f →
      beyondCut r.cut f = false → limitReached r.opts.limit r.hcount = false →
      RStep c r .histSend { r with cursor := some f.id, hcount := r.hcount + 1,
                                   out := r.out ++ [Out.frame f], hout := r.hout ++ [f] }
  /-- limit met by history: no threshold, no hand-over -/
  | histLimit : r.hphase = .scanning → limitReached r.opts.limit r.hcount = true →
      RStep c r .histEnd { r with hphase := .stopped, hbAlive := false,
                                  lphase := if r.opts.follow then .ended else .absent }
  | handOver : r.hphase = .scanning → moreHistory c r = false →
      limitReached r.opts.limit r.hcount = false → r.opts.follow = true →
      RStep c r .histEnd { r with hphase := .handed, lphase := .running, lcount := r.hcount,
                                  out := if r.opts.limit.isNone then r.out ++ [Out.threshold] else r.out }
  /-- a non-following read ends -/
  | histDone : r.hphase = .scanning → moreHistory c r = false →
      limitReached r.opts.limit r.hcount = false → r.opts.follow = false →
      RStep c r .histEnd { r with hphase := .stopped }
  /-- out of scope, or the scan was responsible for it -/
  | liveSkip (f : Frame) (q : List Frame) : r.lphase = .running → r.lagged = false →
      r.queue = f :: q → livePass r f = false →
      RStep c r .liveRecv { r with queue := q, taken := r.taken ++ [f] }
  /-- `last`: the limit is reached by this delivery and the live task ends -/
  | liveDeliver (f : Frame) (q : List Frame) (last : Bool) : r.lphase = .running → r.lagged = false →
      r.queue = f :: q → livePass r f = true → limitReached r.opts.limit (r.lcount + 1) = last →
      RStep c r .liveRecv { r with queue := q, taken := r.taken ++ [f], out := r.out ++ [Out.frame f],
                                   lout := r.lout ++ [f], lcount := r.lcount + 1,
                                   lphase := if last then .ended else r.lphase,
                                   hbAlive := if last then false else r.hbAlive }
  | liveEnd : r.lphase = .running → r.lagged = true →
      RStep c r .liveEnd { r with lphase := .ended, hbAlive := false }
  | pulse : r.hbAlive = true → RStep c r .pulse { r with out := r.out ++ [Out.pulse] }

theorem RStep.of_stepReader {c : List Frame} {r r' : Reader} {a : RAct}
    (e : stepReader c r a = some r') : RStep c r a r' := by
  -- the guards `if … then none` come off `e` as conjuncts; each remaining test is generalized in `e` and its
  -- Bool split, after which `e` evaluates to `some _ = some r'`
  cases a with
  | histSend =>
    cases h2 : nextFrame c r.opts.ctx r.cursor with
    | none => simp [stepReader, h2] at e
    | some f =>
      simp only [stepReader, h2, Option.ite_none_left_eq_some, Option.some.injEq, ne_eq, Decidable.not_not,
        Bool.not_eq_true] at e
      obtain ⟨h1, h3, h4, rfl⟩ := e
      exact .histSend f h1 h2 h3 h4
  | histEnd =>
    simp only [stepReader, Option.ite_none_left_eq_some, ne_eq, Decidable.not_not, Bool.and_eq_true,
      Bool.not_eq_true', not_and, Bool.not_eq_false] at e
    obtain ⟨h1, h2, e⟩ := e
    generalize h3 : limitReached r.opts.limit r.hcount = lim at e h2
    cases lim with
    | true => cases e; exact .histLimit h1 h3
    | false =>
      have h2 : moreHistory c r = false := by simpa using h2
      generalize h4 : r.opts.follow = fo at e
      cases fo <;> cases e
      · exact .histDone h1 h2 h3 h4
      · exact .handOver h1 h2 h3 h4
  | liveRecv =>
    cases hq : r.queue with
    | nil => simp [stepReader, hq] at e
    | cons f q =>
      simp only [stepReader, hq, Option.ite_none_left_eq_some, Bool.or_eq_true, decide_eq_true_eq, not_or, ne_eq,
        Decidable.not_not, Bool.not_eq_true] at e
      obtain ⟨⟨h1, h2⟩, e⟩ := e
      generalize h3 : inScope r.opts.ctx f = sc at e
      generalize h4 : dupOfHistory r.dedupe f = dup at e
      generalize h5 : limitReached r.opts.limit (r.lcount + 1) = last at e
      cases sc with
      | false => cases e; exact .liveSkip f q h1 h2 hq (by simp [livePass, h3])
      | true =>
        cases dup with
        | true => cases e; exact .liveSkip f q h1 h2 hq (by simp [livePass, h4])
        | false =>
          have hp : livePass r f = true := by simp [livePass, h3, h4]
          cases last <;> cases e <;> exact .liveDeliver f q _ h1 h2 hq hp h5
  | liveEnd =>
    simp only [stepReader, Bool.and_eq_true, decide_eq_true_eq, Option.ite_none_right_eq_some,
      Option.some.injEq] at e
    exact e.2 ▸ .liveEnd e.1.1 e.1.2
  | pulse =>
    simp only [stepReader, Option.ite_none_right_eq_some, Option.some.injEq] at e
    exact e.2 ▸ .pulse e.1

theorem RStep.to_stepReader {c : List Frame} {r r' : Reader} {a : RAct} (e : RStep c r a r') :
    stepReader c r a = some r' := by
  induction e with
  | histSend f h1 h2 h3 h4 => simp [stepReader, h1, h2, h3, h4]
  | histLimit h1 h2 => simp [stepReader, h1, h2]
  | handOver h1 h2 h3 h4 => simp [stepReader, h1, h2, h3, h4]
  | histDone h1 h2 h3 h4 => simp [stepReader, h1, h2, h3, h4]
  | liveSkip f q h1 h2 h3 h4 =>
    simp only [livePass, Bool.and_eq_false_iff, Bool.not_eq_false'] at h4
    rcases h4 with h4 | h4 <;> simp [stepReader, h1, h2, h3, h4]
  | liveDeliver f q last h1 h2 h3 h4 h5 =>
    simp only [livePass, Bool.and_eq_true, Bool.not_eq_true'] at h4
    cases last <;> simp [stepReader, h1, h2, h3, h4, h5]
  | liveEnd h1 h2 => simp [stepReader, h1, h2]
  | pulse h1 => simp [stepReader, h1]

/-- the reader a `subscribe` creates -/
def Reader.start (o : ROpts) (cutId subAt : Nat) (snap : List Frame) : Reader :=
  { opts := o
    cut := if o.follow then some cutId else none
    dedupe := if o.follow && !o.tail then some cutId else none
    queue := []
    lagged := false
    cursor := o.last
    hcount := 0
    hphase := if o.tail then .none else .scanning
    lcount := 0
    lphase := if o.follow then (if o.tail then .running else .waiting) else .absent
    hbAlive := o.follow && o.heartbeat
    out := []
    subAt := subAt
    snap := snap }

inductive Step (s : Sys) : Act → Sys → Prop
  | appendId (f : Frame) (id : Nat) : s.lock = none → s.lastId < id →
      Step s (.appendId f id) { s with lock := some ({ f with id := id }, false), lastId := id }
  | appendCommit (f : Frame) : s.lock = some (f, false) → f.ttl ≠ some .ephemeral →
      Step s .appendCommit { s with committed := s.committed ++ [f], lock := some (f, true) }
  | appendAbort (f : Frame) : s.lock = some (f, false) → Step s .appendAbort { s with lock := none }
  | appendBroadcast (f : Frame) (stored : Bool) : s.lock = some (f, stored) →
      (stored = false → f.ttl = some .ephemeral) →
      Step s .appendBroadcast
        { s with bcast := s.bcast ++ [f], lock := none, reader := s.reader.map (·.receive s.cap f) }
  | subscribe (o : ROpts) (cutId : Nat) : s.reader = none →
      (o.follow = true → s.lock = none ∧ s.lastId < cutId) →
      Step s (.subscribe o cutId)
        { s with lastId := if o.follow then cutId else s.lastId
                 reader := some (Reader.start o cutId s.bcast.length s.committed) }
  | r (a : RAct) (r r' : Reader) : s.reader = some r → RStep s.committed r a r' →
      Step s (.r a) { s with reader := some r' }

theorem Step.of_step {s s' : Sys} {a : Act} (e : step s a = some s') : Step s a s' := by
  cases a with
  | appendId f id =>
    simp only [step, Bool.or_eq_true, decide_eq_true_eq, Option.ite_none_left_eq_some, not_or, Nat.not_le,
      Option.some.injEq] at e
    exact e.2 ▸ .appendId f id (by simpa using e.1.1) e.1.2
  | appendCommit =>
    rcases hl : s.lock with _ | ⟨f, _ | _⟩
    · simp [step, hl] at e
    · simp only [step, hl, Option.ite_none_left_eq_some, Option.some.injEq] at e
      exact e.2 ▸ .appendCommit f hl e.1
    · simp [step, hl] at e
  | appendAbort =>
    rcases hl : s.lock with _ | ⟨f, _ | _⟩
    · simp [step, hl] at e
    · simp only [step, hl, Option.some.injEq] at e
      exact e ▸ .appendAbort f hl
    · simp [step, hl] at e
  | appendBroadcast =>
    cases hl : s.lock with
    | none => simp [step, hl] at e
    | some p =>
      simp only [step, hl, Option.ite_none_left_eq_some, Option.some.injEq, Bool.and_eq_true, Bool.not_eq_true',
        decide_eq_true_eq, not_and, ne_eq, Decidable.not_not] at e
      exact e.2 ▸ .appendBroadcast p.1 p.2 hl e.1
  | subscribe o c =>
    cases hg : ((o.follow && s.lock.isSome) || s.reader.isSome || (o.follow && decide (c ≤ s.lastId))) with
    | true => simp [step, hg] at e
    | false =>
      simp only [step, hg, Bool.false_eq_true, if_false, Option.some.injEq] at e
      simp only [Bool.or_eq_false_iff, Bool.and_eq_false_imp, decide_eq_false_iff_not, Nat.not_le,
        Option.isSome_eq_false_iff, Option.isNone_iff_eq_none] at hg
      exact e ▸ .subscribe o c hg.1.2 (fun h => ⟨hg.1.1 h, hg.2 h⟩)
  | r a =>
    cases hr : s.reader with
    | none => simp [step, hr] at e
    | some r =>
      simp only [step, hr, Option.map_eq_some_iff] at e
      obtain ⟨r', e1, rfl⟩ := e
      exact .r a r r' hr (.of_stepReader e1)

theorem run_induction {P : Sys → Prop} (hstep : ∀ {s a s'}, P s → Step s a s' → P s') {s s' : Sys}
    (h : P s) (as : List Act) (e : run s as = some s') : P s' := by
  induction as generalizing s with
  | nil => cases e; exact h
  | cons a as ih =>
    simp only [run] at e
    split at e
    · exact ih (hstep h (.of_step ‹_›)) e
    · cases e

/-- C02 core: ids, commits and broadcasts are totally ordered by the append lock -/
structure Inv1 (s : Sys) : Prop where
  cs : Sorted s.committed
  bs : Sorted s.bcast
  cle : idsLe s.committed s.lastId
  ble : idsLe s.bcast s.lastId
  lk : ∀ f st, s.lock = some (f, st) →
    f.id = s.lastId ∧ idsLt s.bcast s.lastId ∧
    (st = false → idsLt s.committed s.lastId) ∧
    (st = true → f.ttl ≠ some .ephemeral ∧ ∃ pre, s.committed = pre ++ [f])

theorem inv1_init : Inv1 {} := by
  refine ⟨List.Pairwise.nil, List.Pairwise.nil, ?_, ?_, ?_⟩ <;> simp [idsLe]

theorem Step.inv1 {s s' : Sys} {a : Act} (e : Step s a s') (h : Inv1 s) : Inv1 s' := by
  obtain ⟨cs, bs, cle, ble, lk⟩ := h
  induction e with
  | appendId f id _ hlt =>
    exact ⟨cs, bs, (cle.lt_of_lt hlt).le, (ble.lt_of_lt hlt).le, fun _ _ hl => by
      cases hl; exact ⟨rfl, ble.lt_of_lt hlt, fun _ => cle.lt_of_lt hlt, nofun⟩⟩
  | appendCommit f hl hne =>
    obtain ⟨hid, hb, hc, _⟩ := lk f false hl
    exact ⟨sorted_snoc.2 ⟨cs, hid ▸ hc rfl⟩, bs, idsLe_snoc.2 ⟨cle, Nat.le_of_eq hid⟩, ble, fun _ _ hl => by
      cases hl; exact ⟨hid, hb, nofun, fun _ => ⟨hne, _, rfl⟩⟩⟩
  | appendAbort => exact ⟨cs, bs, cle, ble, fun _ _ h => nomatch h⟩
  | appendBroadcast f st hl =>
    obtain ⟨hid, hb, _, _⟩ := lk f st hl
    exact ⟨cs, sorted_snoc.2 ⟨bs, hid ▸ hb⟩, cle, idsLe_snoc.2 ⟨ble, Nat.le_of_eq hid⟩, fun _ _ h => nomatch h⟩
  | subscribe o c _ hg =>
    cases hf : o.follow with
    | false => exact ⟨cs, bs, cle, ble, lk⟩
    | true =>
      obtain ⟨hlock, hlt⟩ := hg hf
      exact ⟨cs, bs, cle.mono (Nat.le_of_lt hlt), ble.mono (Nat.le_of_lt hlt), fun _ _ hl => by
        rw [hlock] at hl; cases hl⟩
  | r => exact ⟨cs, bs, cle, ble, lk⟩

theorem run_inv1 {s s' : Sys} (h : Inv1 s) (as : List Act) (e : run s as = some s') : Inv1 s' :=
  run_induction (fun h e => e.inv1 h) h as e

/-- a step never rewrites history: the stored stream only grows at its end -/
theorem Step.committed_prefix {s s' : Sys} {a : Act} (e : Step s a s') : s.committed <+: s'.committed := by
  induction e with
  | appendCommit => exact List.prefix_append ..
  | _ => exact List.prefix_refl _

/-- over any schedule: the later stream is the earlier one plus frames at its end, which are newer
    because the later stream is sorted -/
theorem run_committed_extends {s s' : Sys} (h : Inv1 s) (as : List Act) (e : run s as = some s') :
    ∃ new, s'.committed = s.committed ++ new ∧ ∀ f ∈ new, ∀ g ∈ s.committed, g.id < f.id := by
  obtain ⟨new, e1⟩ := run_induction (P := fun t => s.committed <+: t.committed)
    (fun h e => h.trans e.committed_prefix) (List.prefix_refl _) as e
  exact ⟨new, e1.symm, fun f hf g hg => (List.pairwise_append.1 (e1 ▸ (run_inv1 h as e).cs)).2.2 g hg f hf⟩

/-- what a client polling with `last-id` = the newest frame it has seen gets next -/
def pollAfter (committed : List Frame) (last : Option Nat) : List Frame :=
  committed.filter (afterId last)

def newestId (l : List Frame) : Option Nat := l.getLast?.map (·.id)

theorem pollAfter_append {l new : List Frame} (h : Sorted (l ++ new)) :
    pollAfter (l ++ new) (newestId l) = new := by
  rcases List.eq_nil_or_concat l with rfl | ⟨pre, g, rfl⟩
  · simp [pollAfter, newestId, afterId]
  · -- `g`, the newest frame of `l`, bounds `l` from above and `new` from below
    rw [List.concat_eq_append] at h ⊢
    obtain ⟨h1, -, h2⟩ := List.pairwise_append.1 h
    have hl : newestId (pre ++ [g]) = some g.id := by simp [newestId]
    rw [pollAfter, hl, List.filter_append, List.filter_eq_nil_iff.2, List.filter_eq_self.2, List.nil_append]
    · exact fun x hx => by simpa [afterId] using h2 g (by simp) x hx
    · intro x hx
      rcases List.mem_append.1 hx with hx | hx
      · simpa [afterId] using Nat.le_of_lt ((sorted_snoc.1 h1).2 x hx)
      · simp [afterId, List.mem_singleton.1 hx]

/-- C02: a poller that has seen exactly the stream of state `s` receives, at any later state,
    exactly the frames appended since — none missed, none twice — whatever the interleaving -/
theorem poller_exactly_once {s s' : Sys} (h : Inv1 s) (as : List Act) (e : run s as = some s') :
    ∃ new, s'.committed = s.committed ++ new ∧ pollAfter s'.committed (newestId s.committed) = new := by
  obtain ⟨new, e1, -⟩ := run_committed_extends h as e
  exact ⟨new, e1, e1 ▸ pollAfter_append (e1 ▸ (run_inv1 h as e).cs)⟩

/-- C02: frames are handed to subscribers in increasing id order -/
theorem broadcast_in_id_order {s s' : Sys} (h : Inv1 s) (as : List Act) (e : run s as = some s') :
    Sorted s'.bcast := (run_inv1 h as e).bs

theorem realFrames_append (a b : List Out) : realFrames (a ++ b) = realFrames a ++ realFrames b := by
  simp [realFrames]

/-- bookkeeping invariant of one reader (does not need the lock discipline) -/
structure InvR (committed bcast : List Frame) (r : Reader) : Prop where
  /-- deliveries = history part, then live part -/
  out_eq : realFrames r.out = r.hout ++ r.lout
  /-- the live part is what the live task took, filtered -/
  lout_eq : r.lout = r.taken.filter (livePass r)
  /-- taken and queued frames are, in order, what was broadcast since the subscription -/
  sub_prefix : (r.taken ++ r.queue) <+: bcast.drop r.subAt
  /-- nothing broadcast since the subscription is missing unless the reader lagged or ended -/
  sub_all : r.opts.follow = true → r.lagged = false → r.lphase ≠ .ended →
    r.taken ++ r.queue = bcast.drop r.subAt
  /-- the history part: every stored frame in scope after `last-id` up to the cursor -/
  hout_eq : r.hout = committed.filter (fun f => scanScope r f && !afterId r.cursor f)
  hcount_eq : r.hcount = r.hout.length
  /-- history and live never overlap in time -/
  ph_run : r.lphase = .running → r.hphase = .handed ∨ r.hphase = .none
  ph_scan : r.hphase = .scanning → r.taken = [] ∧ (r.lphase = .waiting ∨ r.lphase = .absent)
  ph_none : r.hphase = .none → r.hout = []
  /-- limit accounting -/
  lcount_eq : r.lphase = .running ∨ r.lphase = .ended → r.hphase ≠ .stopped → r.lcount = r.hout.length + r.lout.length
  lim_hist : ∀ n, r.opts.limit = some n → r.hout.length ≤ n
  /-- the second disjunct (here and in `lim_done`) is the one case in which the limit is exceeded:
      a tail follow with `limit = 0` has no history thread to test the limit first, and the live
      task tests it only after a delivery, so one frame gets through (the code does the same) -/
  lim_live : ∀ n, r.opts.limit = some n → r.lphase = .running → r.hout.length + r.lout.length < n ∨ (n = 0 ∧ r.opts.tail = true ∧ r.lout = [])
  lim_done : ∀ n, r.opts.limit = some n → r.hout.length + r.lout.length ≤ n ∨ (n = 0 ∧ r.opts.tail = true ∧ r.lout.length ≤ 1)
  /-- no live delivery unless the live task ran -/
  no_live : r.lphase = .waiting ∨ r.lphase = .absent → r.taken = []
  nofollow : r.opts.follow = false → r.lphase = .absent ∧ r.queue = []
  cursor_ok : r.cursor = r.opts.last ∨ ∃ f ∈ committed, r.cursor = some f.id
  cursor_ge : ∀ f, afterId r.cursor f = true → afterId r.opts.last f = true
  sub_le : r.subAt ≤ bcast.length

theorem afterId_mono {c : Option Nat} {f g : Frame} (h : afterId c f = true) (hlt : f.id < g.id) :
    afterId c g = true := by
  cases c with
  | none => rfl
  | some c => simp only [afterId, decide_eq_true_eq] at h ⊢; omega

/-- in a sorted list, moving the cursor to the first frame `f` after it that the scan looks for (`q`)
    adds exactly `f` to the frames of `p` the cursor has passed, if `p` and `q` agree beyond the cursor -/
theorem filter_passed_step {c : List Frame} (hs : Sorted c) {p q : Frame → Bool} {cur : Option Nat} {f : Frame}
    (hnext : c.find? (fun x => q x && afterId cur x) = some f) (hpq : ∀ x, afterId cur x = true → p x = q x) :
    c.filter (fun x => p x && !afterId (some f.id) x) = c.filter (fun x => p x && !afterId cur x) ++ [f] := by
  obtain ⟨hP, pre, post, rfl, hpre⟩ := List.find?_eq_some_iff_append.1 hnext
  obtain ⟨-, hfp, hlt⟩ := List.pairwise_append.1 hs
  have hpost := (List.pairwise_cons.1 hfp).1
  simp only [Bool.and_eq_true] at hP
  -- before `f`: ids below `f.id`, and not what the scan was looking for
  have e1 : pre.filter (fun x => p x && !afterId (some f.id) x) = pre.filter (fun x => p x && !afterId cur x) :=
    List.filter_congr fun x hx => by
      have h1 : afterId (some f.id) x = false := by simpa [afterId] using Nat.le_of_lt (hlt x hx f (by simp))
      have h2 := hpre x hx
      cases hp : p x
      · rfl
      · cases ha : afterId cur x
        · rw [h1]
        · simp [← hpq x ha, hp, ha] at h2
  have e2 : ∀ cur', afterId cur' f = true ∨ cur' = some f.id → post.filter (fun x => p x && !afterId cur' x) = [] :=
    fun cur' h => List.filter_eq_nil_iff.2 fun x hx => by
      rcases h with h | rfl
      · simp [afterId_mono h (hpost x hx)]
      · simp [afterId, hpost x hx]
  have hf : afterId (some f.id) f = false := by simp [afterId]
  simp [List.filter_append, e1, e2, hP, hpq f hP.2, hf]

theorem invR_start (committed bcast : List Frame) (o : ROpts) (cutId : Nat) :
    InvR committed bcast (Reader.start o cutId bcast.length committed) := by
  refine { out_eq := rfl, lout_eq := rfl, sub_prefix := List.nil_prefix,
           sub_all := fun _ _ _ => (List.drop_length).symm, hout_eq := Eq.symm (List.filter_eq_nil_iff.2 ?_),
           hcount_eq := rfl, ph_run := fun h => ?_, ph_scan := fun h => ⟨rfl, ?_⟩, ph_none := fun _ => rfl,
           lcount_eq := fun _ _ => rfl, lim_hist := fun _ _ => Nat.zero_le _, lim_live := fun n _ h => ?_,
           lim_done := fun _ _ => .inl (Nat.zero_le _), no_live := fun _ => rfl, nofollow := fun h => ?_,
           cursor_ok := .inl rfl, cursor_ge := fun _ h => h, sub_le := Nat.le_refl _ }
  · intro x _
    simp only [scanScope, Reader.start]
    cases afterId o.last x <;> simp
  all_goals unfold Reader.start at * <;> grind

theorem InvR.commit {c b : List Frame} {r : Reader} (h : InvR c b r) {f : Frame} (hnew : idsLt c f.id) :
    InvR (c ++ [f]) b r := by
  refine { h with hout_eq := ?_, cursor_ok := ?_ }
  · have : (scanScope r f && !afterId r.cursor f) = false := by
      rcases h.cursor_ok with hc | ⟨g, hg, hc⟩ <;> rw [hc]
      · simp [scanScope]
      · simp [afterId, hnew g hg]
    simp [h.hout_eq, List.filter_append, this]
  · exact h.cursor_ok.imp id fun ⟨g, hg, hc⟩ => ⟨g, List.mem_append_left _ hg, hc⟩

theorem InvR.receive {c b : List Frame} {r : Reader} (h : InvR c b r) (cap : Nat) (f : Frame) :
    InvR c (b ++ [f]) (r.receive cap f) := by
  have hdrop : (b ++ [f]).drop r.subAt = b.drop r.subAt ++ [f] := List.drop_append_of_le_length h.sub_le
  have hle : r.subAt ≤ (b ++ [f]).length := List.length_append ▸ Nat.le_add_right_of_le h.sub_le
  have hpre : (r.taken ++ r.queue) <+: (b ++ [f]).drop r.subAt :=
    hdrop ▸ h.sub_prefix.trans (List.prefix_append _ _)
  unfold Reader.receive
  by_cases hc : (r.opts.follow && r.lphase ≠ .ended && !r.lagged) = true
  · rw [if_pos hc]
    simp only [Bool.and_eq_true, Bool.not_eq_true', decide_eq_true_eq] at hc
    have hall := h.sub_all hc.1.1 hc.2 hc.1.2
    by_cases hq : r.queue.length < cap
    · rw [if_pos hq]
      refine { h with sub_prefix := ?_, sub_all := ?_, sub_le := hle, nofollow := ?_ }
      · simp [hdrop, ← hall]
      · intros; simp [hdrop, ← hall]
      · simp [hc.1.1]
    · rw [if_neg hq]
      exact { h with sub_prefix := hpre, sub_all := nofun, sub_le := hle }
  · rw [if_neg hc]
    exact { h with sub_prefix := hpre, sub_le := hle,
                   sub_all := fun hfo hl hne => by simp [hfo, hl, hne] at hc }

theorem limitReached_eq_false {l : Option Nat} {c : Nat} : limitReached l c = false ↔ ∀ n, l = some n → c < n := by
  cases l <;> simp [limitReached]

theorem InvR.lout_nil {c b : List Frame} {r : Reader} (h : InvR c b r) (hph : r.hphase = .scanning) : r.lout = [] := by
  simp [h.lout_eq, (h.ph_scan hph).1]

theorem InvR.rstep {c b : List Frame} {r r' : Reader} {a : RAct} (h : InvR c b r) (hs : Sorted c)
    (e : RStep c r a r') : InvR c b r' := by
  -- the live task moves the head of its queue to `taken`
  have htake : ∀ f q, r.queue = f :: q → (r.taken ++ [f]) ++ q = r.taken ++ r.queue :=
    fun f q hq => hq ▸ List.append_assoc ..
  induction e with
  | histSend f hph hnext _ hlim =>
    have hlp := (h.ph_scan hph).2
    have hlim := limitReached_eq_false.1 hlim
    have hP : inScope r.opts.ctx f = true ∧ afterId r.cursor f = true := by simpa using List.find?_some hnext
    exact { h with
      out_eq := by
        rw [realFrames_append, h.out_eq, h.lout_nil hph, List.append_nil]; exact (List.append_nil _).symm
      hout_eq := (congrArg (· ++ [f]) h.hout_eq).trans
        (filter_passed_step hs hnext fun x hx => by simp [scanScope, h.cursor_ge x hx]).symm
      hcount_eq := by simp [h.hcount_eq]
      ph_none := by simp [hph]
      lcount_eq := fun hl => by rcases hlp with hw | hw <;> simp [hw] at hl
      lim_hist := fun n hn => by rw [List.length_append, ← h.hcount_eq]; exact hlim n hn
      lim_live := fun _ _ hl => by rcases hlp with hw | hw <;> simp [hw] at hl
      lim_done := fun n hn => .inl (by rw [List.length_append, ← h.hcount_eq, h.lout_nil hph]; exact hlim n hn)
      cursor_ok := .inr ⟨f, List.mem_of_find?_eq_some hnext, rfl⟩
      cursor_ge := fun g hg => h.cursor_ge g (afterId_mono hP.2 (by simpa [afterId] using hg)) }
  | histLimit hph hlim =>
    have hnr : (if r.opts.follow then LPhase.ended else .absent) ≠ .running := by split <;> nofun
    exact { h with
      sub_all := fun hf _ hne => (hne (if_pos hf)).elim
      ph_run := fun hl => (hnr hl).elim
      ph_scan := nofun, ph_none := nofun, lcount_eq := fun _ hs => (hs rfl).elim
      lim_live := fun n _ hl => (hnr hl).elim
      no_live := fun _ => (h.ph_scan hph).1
      nofollow := fun (hf : r.opts.follow = false) => ⟨by simp [hf], (h.nofollow hf).2⟩ }
  | handOver hph _ hlim hf =>
    have hlp := (h.ph_scan hph).2
    exact { h with
      out_eq := by
        split
        · rw [realFrames_append, h.out_eq]; exact List.append_nil _
        · exact h.out_eq
      sub_all := fun hfo hl _ => h.sub_all hfo hl (by rcases hlp with hw | hw <;> simp [hw])
      ph_run := fun _ => .inl rfl, ph_scan := nofun, ph_none := nofun
      lcount_eq := by simp [h.hcount_eq, h.lout_nil hph]
      lim_live := fun n hn _ => .inl (by
        rw [h.lout_nil hph, ← h.hcount_eq]; exact limitReached_eq_false.1 hlim n hn)
      no_live := by simp, nofollow := by simp [hf] }
  | histDone hph _ _ hf =>
    exact { h with ph_run := by simp [(h.nofollow hf).1], ph_scan := nofun, ph_none := nofun,
                   lcount_eq := fun _ hs => (hs rfl).elim, nofollow := h.nofollow }
  | liveSkip f q hrun _ hq hp =>
    exact { h with
      lout_eq := show r.lout = (r.taken ++ [f]).filter (livePass r) by
        simp [List.filter_append, hp, ← h.lout_eq]
      sub_prefix := htake f q hq ▸ h.sub_prefix
      sub_all := fun hfo hl hne => (htake f q hq).trans (h.sub_all hfo hl hne)
      ph_scan := fun hs => by rcases h.ph_run hrun with hh | hh <;> simp [hh] at hs
      no_live := by simp [hrun]
      nofollow := fun hf => by simp [(h.nofollow hf).1] at hrun }
  | liveDeliver f q last hrun _ hq hp hlast =>
    have hhp := h.ph_run hrun
    have hlc := h.lcount_eq (.inl hrun) (by rcases hhp with hh | hh <;> simp [hh])
    exact { h with
      out_eq := by rw [realFrames_append, h.out_eq]; exact List.append_assoc ..
      lout_eq := show r.lout ++ [f] = (r.taken ++ [f]).filter (livePass r) by
        simp [List.filter_append, hp, ← h.lout_eq]
      sub_prefix := htake f q hq ▸ h.sub_prefix
      sub_all := fun hfo hl _ => (htake f q hq).trans (h.sub_all hfo hl (by simp [hrun]))
      ph_run := fun _ => hhp
      ph_scan := fun hs => by rcases hhp with hh | hh <;> simp [hh] at hs
      lcount_eq := fun _ _ => by rw [hlc, List.length_append]; rfl
      lim_live := fun n hn hl => by
        cases last with
        | true => simp at hl
        | false =>
          exact .inl (by rw [List.length_append, ← Nat.add_assoc, ← hlc]; exact limitReached_eq_false.1 hlast n hn)
      lim_done := fun n hn => (h.lim_live n hn hrun).imp (fun hlt => by rw [List.length_append]; exact hlt)
        fun ⟨h0, ht, hl0⟩ => ⟨h0, ht, by simp [hl0]⟩
      no_live := fun hl => by cases last <;> simp [hrun] at hl
      nofollow := fun hf => by simp [(h.nofollow hf).1] at hrun }
  | liveEnd hrun _ =>
    exact { h with
      sub_all := fun _ _ hn => (hn rfl).elim, ph_run := nofun, lim_live := nofun, no_live := by simp
      ph_scan := fun hs => by rcases h.ph_run hrun with hh | hh <;> simp [hh] at hs
      lcount_eq := fun _ => h.lcount_eq (.inl hrun)
      nofollow := fun hf => by simp [(h.nofollow hf).1] at hrun }
  | pulse _ => exact { h with out_eq := by rw [realFrames_append, h.out_eq]; exact List.append_nil _ }

structure InvS (s : Sys) : Prop where
  i1 : Inv1 s
  rd : ∀ r, s.reader = some r → InvR s.committed s.bcast r

theorem invS_init : InvS {} := ⟨inv1_init, fun _ h => by cases h⟩

theorem Step.invS {s s' : Sys} {a : Act} (e : Step s a s') (h : InvS s) : InvS s' := by
  refine ⟨e.inv1 h.i1, ?_⟩
  induction e with
  | appendId | appendAbort => exact h.rd
  | appendCommit f hl _ =>
    obtain ⟨hid, _, hc, _⟩ := h.i1.lk f false hl
    exact fun r hr => (h.rd r hr).commit (hid ▸ hc rfl)
  | appendBroadcast f =>
    rintro _ hr
    obtain ⟨r0, hr0, rfl⟩ := Option.map_eq_some_iff.1 hr
    exact (h.rd r0 hr0).receive _ f
  | subscribe o c => rintro _ ⟨⟩; exact invR_start ..
  | r a r r' hr e => rintro _ ⟨⟩; exact (h.rd r hr).rstep h.i1.cs e

theorem run_invS {s s' : Sys} (h : InvS s) (as : List Act) (e : run s as = some s') : InvS s' :=
  run_induction (fun h e => e.invS h) h as e

/-- the reader after a broadcast is the one before it, but for the queue and the lag flag -/
theorem receive_eq {o : Option Reader} {cap : Nat} {f : Frame} {r' : Reader}
    (h : o.map (·.receive cap f) = some r') : ∃ r q l, o = some r ∧ r' = { r with queue := q, lagged := l } := by
  obtain ⟨r, hr, rfl⟩ := Option.map_eq_some_iff.1 h
  unfold Reader.receive
  -- both tests by `cases` (the second is on its `Decidable` instance): `split` is several times dearer here
  cases (r.opts.follow && r.lphase ≠ .ended && !r.lagged)
  · exact ⟨r, _, _, hr, rfl⟩
  · cases Nat.decLt r.queue.length cap <;> exact ⟨r, _, _, hr, rfl⟩

/-- how a step changes the reader: a property of readers that holds of a fresh one, does not look at
    the queue or the lag flag, and is kept by the reader's own steps is kept by every step -/
theorem Step.reader_inv {P : Reader → Prop} {s s' : Sys} {a : Act} (e : Step s a s')
    (h : ∀ r, s.reader = some r → P r)
    (hstart : ∀ o c, P (Reader.start o c s.bcast.length s.committed))
    (hrecv : ∀ r q l, P r → P { r with queue := q, lagged := l })
    (hstep : ∀ r a r', s.reader = some r → P r → RStep s.committed r a r' → P r') :
    ∀ r, s'.reader = some r → P r := by
  induction e with
  | appendId | appendCommit | appendAbort => exact h
  | appendBroadcast f =>
    rintro _ hr
    obtain ⟨r0, q, l, hr0, rfl⟩ := receive_eq hr
    exact hrecv r0 q l (h r0 hr0)
  | subscribe o c => rintro _ ⟨⟩; exact hstart o c
  | r a r r' hr e => rintro _ ⟨⟩; exact hstep r a r' hr (h r hr) e

def thresholds (o : List Out) : Nat := (o.filter (fun x => x == Out.threshold)).length
def pulses (o : List Out) : Nat := (o.filter (fun x => x == Out.pulse)).length

/-- shape of the delivered sequence and flags that only ever go one way -/
structure InvT (r : Reader) : Prop where
  tail_none : r.opts.tail = true → r.hphase = .none
  notail : r.opts.tail = false → r.hphase ≠ .none
  hb : r.hbAlive = true → r.opts.follow = true ∧ r.opts.heartbeat = true ∧ r.lphase ≠ .ended
  pulse_only_hb : pulses r.out > 0 → r.opts.heartbeat = true
  /-- before the hand-off there is no threshold -/
  pre : r.hphase = .scanning ∨ r.hphase = .stopped ∨ r.hphase = .none → thresholds r.out = 0
  /-- after the hand-off of an unlimited follow: exactly one threshold, after the whole
      history part and before the whole live part -/
  post : r.hphase = .handed →
    (r.opts.limit = none → ∃ A B, r.out = A ++ [Out.threshold] ++ B ∧ thresholds A = 0 ∧ thresholds B = 0 ∧
        realFrames A = r.hout ∧ realFrames B = r.lout) ∧
    (r.opts.limit ≠ none → thresholds r.out = 0)

theorem thresholds_append (a b : List Out) : thresholds (a ++ b) = thresholds a + thresholds b := by
  simp [thresholds, List.filter_append]

theorem pulses_append (a b : List Out) : pulses (a ++ b) = pulses a + pulses b := by
  simp [pulses, List.filter_append]

theorem thresholds_snoc {x : Out} (o : List Out) (hx : x ≠ .threshold) : thresholds (o ++ [x]) = thresholds o := by
  rw [thresholds_append]; cases x <;> first | rfl | cases hx rfl

theorem invT_start (o : ROpts) (cutId n : Nat) (snap : List Frame) : InvT (Reader.start o cutId n snap) := by
  refine ⟨?_, ?_, ?_, nofun, fun _ => rfl, ?_⟩ <;> unfold Reader.start <;> grind

/-- a delivery `x` other than the threshold, after which the live task may have ended: before the
    hand-over it changes no count, after it `x` joins the live side of the split -/
theorem InvT.emit {r r' : Reader} (h : InvT r) (x : Out) (hx : x ≠ .threshold)
    (hp : x = .pulse → r.opts.heartbeat = true)
    (ho : r'.opts = r.opts) (hh : r'.hphase = r.hphase) (hout : r'.out = r.out ++ [x])
    (hl : r.hphase = .handed → r'.hout = r.hout ∧ r'.lout = r.lout ++ realFrames [x])
    (hb : r'.hbAlive = true → r.hbAlive = true ∧ r'.lphase = r.lphase) : InvT r' := by
  refine ⟨ho ▸ hh ▸ h.tail_none, ho ▸ hh ▸ h.notail, fun hb' => ?_, fun hpl => ?_, fun hph => ?_, fun hph => ?_⟩
  · obtain ⟨h1, h2⟩ := hb hb'
    rw [ho, h2]; exact h.hb h1
  · rw [ho]
    by_cases hxp : x = .pulse
    · exact hp hxp
    · exact h.pulse_only_hb (by simpa [hout, pulses_append, pulses, hxp] using hpl)
  · rw [hout, thresholds_snoc _ hx]; exact h.pre (hh ▸ hph)
  · rw [hh] at hph
    obtain ⟨p1, p2⟩ := h.post hph
    rw [ho, hout, (hl hph).1, (hl hph).2, thresholds_snoc _ hx]
    refine ⟨fun hl => ?_, p2⟩
    obtain ⟨A, B, e1, e2, e3, e4, e5⟩ := p1 hl
    exact ⟨A, B ++ [x], by rw [e1, List.append_assoc], e2, by rw [thresholds_snoc B hx, e3], e4,
      by rw [realFrames_append, e5]⟩

theorem InvT.rstep {c b : List Frame} {r r' : Reader} {a : RAct} (hR : InvR c b r) (h : InvT r)
    (e : RStep c r a r') : InvT r' := by
  have hnt : r.hphase = .scanning → r.opts.tail = true → False :=
    fun hs ht => absurd (hs.symm.trans (h.tail_none ht)) (by decide)
  induction e with
  | histSend f hs =>
    exact h.emit (.frame f) nofun nofun rfl rfl rfl (fun hh => absurd (hs.symm.trans hh) (by decide)) (fun hb => ⟨hb, rfl⟩)
  | liveSkip => exact { h with }
  | liveDeliver f _ last =>
    refine h.emit (.frame f) nofun nofun rfl rfl rfl (fun _ => ⟨rfl, rfl⟩) ?_
    cases last
    · exact fun hb => ⟨hb, rfl⟩
    · exact nofun
  | pulse hb =>
    exact h.emit .pulse nofun (fun _ => (h.hb hb).2.1) rfl rfl rfl (fun _ => ⟨rfl, (List.append_nil _).symm⟩)
      (fun hb => ⟨hb, rfl⟩)
  | liveEnd => exact { h with hb := nofun }
  | histLimit hs =>
    exact ⟨fun ht => (hnt hs ht).elim, fun _ => nofun, nofun, h.pulse_only_hb, fun _ => h.pre (.inl hs), nofun⟩
  | histDone hs =>
    exact ⟨fun ht => (hnt hs ht).elim, fun _ => nofun, h.hb, h.pulse_only_hb, fun _ => h.pre (.inl hs), nofun⟩
  | handOver hs _ _ hf =>
    have hlo := hR.lout_nil hs
    have hpre := h.pre (.inl hs)
    exact {
      tail_none := fun ht => (hnt hs ht).elim, notail := fun _ => nofun, pre := nofun
      hb := fun hb => ⟨hf, (h.hb hb).2.1, nofun⟩
      pulse_only_hb := fun hp => h.pulse_only_hb (by
        split at hp
        · rwa [pulses_append] at hp  -- `pulses [Out.threshold]` evaluates to `0`
        · exact hp)
      post := fun _ => ⟨fun (hl : r.opts.limit = none) =>
          ⟨r.out, [], by simp [hl], hpre, rfl, by simp [hR.out_eq, hlo], hlo.symm⟩,
        fun (hl : r.opts.limit ≠ none) => by simpa [hl] using hpre⟩ }

/-- facts about the cut of a following reader -/
structure InvC (s : Sys) (r : Reader) : Prop where
  cut : r.opts.follow = true → ∃ c, r.cut = some c ∧ c ≤ s.lastId ∧ (∀ f ∈ r.hout, f.id ≤ c) ∧
    (∀ f ∈ s.bcast.drop r.subAt, c < f.id) ∧ (∀ f st, s.lock = some (f, st) → c < f.id) ∧
    (r.dedupe = none ∨ r.dedupe = some c)

/-- `InvC` with its conjuncts named: what it says of the cut `c` of a following reader -/
structure CutAt (s : Sys) (r : Reader) (c : Nat) : Prop where
  cut_eq : r.cut = some c
  le_last : c ≤ s.lastId
  hout_le : ∀ f ∈ r.hout, f.id ≤ c
  lt_live : ∀ f ∈ s.bcast.drop r.subAt, c < f.id
  lt_lock : ∀ f st, s.lock = some (f, st) → c < f.id
  dedupe : r.dedupe = none ∨ r.dedupe = some c

theorem InvC.cutAt {s : Sys} {r : Reader} (h : InvC s r) (hf : r.opts.follow = true) : ∃ c, CutAt s r c :=
  let ⟨c, h1, h2, h3, h4, h5, h6⟩ := h.cut hf
  ⟨c, h1, h2, h3, h4, h5, h6⟩

theorem invC_of_cutAt {s : Sys} {r : Reader} (h : r.opts.follow = true → ∃ c, CutAt s r c) : InvC s r :=
  ⟨fun hf => let ⟨c, h⟩ := h hf; ⟨c, h.1, h.2, h.3, h.4, h.5, h.6⟩⟩

/-- `InvC` carried over to another state and a reader with the same options, cut by cut -/
theorem InvC.map {s s' : Sys} {r r' : Reader} (h : InvC s r) (ho : r'.opts = r.opts)
    (f : ∀ c, CutAt s r c → CutAt s' r' c) : InvC s' r' :=
  invC_of_cutAt fun hf => (h.cutAt (ho ▸ hf)).imp f

structure Good (s : Sys) : Prop where
  inv : InvS s
  thr : ∀ r, s.reader = some r → InvT r
  cutc : ∀ r, s.reader = some r → InvC s r

theorem good_init : Good {} := ⟨invS_init, (fun r h => by cases h), (fun r h => by cases h)⟩

theorem Step.good {s s' : Sys} {a : Act} (e : Step s a s') (h : Good s) : Good s' := by
  refine ⟨e.invS h.inv, e.reader_inv h.thr (fun _ _ => invT_start ..)
    (fun _ _ _ hT => { hT with })
    (fun r _ _ hr hT e => hT.rstep (h.inv.rd r hr) e), ?_⟩
  induction e with
  | appendId f id _ hlt =>
    exact fun r hr => (h.cutc r hr).map rfl fun c hc =>
      { hc with le_last := Nat.le_trans hc.le_last (Nat.le_of_lt hlt)
                lt_lock := fun _ _ hl => by cases hl; exact Nat.lt_of_le_of_lt hc.le_last hlt }
  | appendCommit f hl =>
    exact fun r hr => (h.cutc r hr).map rfl fun c hc =>
      { hc with lt_lock := fun _ _ hl' => by cases hl'; exact hc.lt_lock f false hl }
  | appendAbort =>
    exact fun r hr => (h.cutc r hr).map rfl fun c hc => { hc with lt_lock := fun _ _ h => nomatch h }
  | appendBroadcast f st hl =>
    intro _ hr
    obtain ⟨r0, q, l, hr0, rfl⟩ := receive_eq hr
    refine (h.cutc r0 hr0).map rfl fun c hc => { hc with
      lt_lock := fun _ _ h => nomatch h
      lt_live := ?_ }
    rw [List.drop_append_of_le_length (h.inv.rd r0 hr0).sub_le]
    exact List.forall_mem_append.2 ⟨hc.lt_live, List.forall_mem_singleton.2 (hc.lt_lock f st hl)⟩
  | subscribe o c _ hg =>
    rintro _ ⟨⟩
    refine invC_of_cutAt fun (hf : o.follow = true) => ⟨c, ?_⟩
    unfold Reader.start
    constructor <;> simp [hf, (hg hf).1]
  | r a r r' hr e =>
    rintro _ ⟨⟩
    induction e with
    | histSend f _ _ hb =>
      -- the one reader step that `InvC` sees: the history part grows by a frame within the cut
      exact (h.cutc r hr).map rfl fun c hc =>
        { hc with hout_le := idsLe_snoc.2 ⟨hc.hout_le, by simpa [beyondCut, hc.cut_eq] using hb⟩ }
    | _ => exact ⟨(h.cutc r hr).cut⟩

theorem run_good {s s' : Sys} (h : Good s) (as : List Act) (e : run s as = some s') : Good s' :=
  run_induction (fun h e => e.good h) h as e

/-- phase bookkeeping (with `InvR.nofollow`: a non-following read has no live task) -/
structure InvP (r : Reader) : Prop where
  wait_scan : r.lphase = .waiting → r.hphase = .scanning
  absent_nofollow : r.lphase = .absent → r.opts.follow = false
  handed_follow : r.hphase = .handed → r.opts.follow = true

theorem invP_start (o : ROpts) (cutId n : Nat) (snap : List Frame) : InvP (Reader.start o cutId n snap) := by
  constructor <;> unfold Reader.start <;> grind

theorem InvP.rstep {c b : List Frame} {r r' : Reader} {a : RAct} (hR : InvR c b r) (h : InvP r)
    (e : RStep c r a r') : InvP r' := by
  obtain ⟨h1, h2, h3⟩ := h
  induction e with
  | histSend | liveSkip | pulse => exact ⟨h1, h2, h3⟩
  | histLimit =>
    refine ⟨fun h => ?_, fun h => ?_, nofun⟩
    all_goals cases hf : r.opts.follow <;> simp [hf] at h ⊢
  | handOver _ _ _ hf => exact ⟨nofun, nofun, fun _ => hf⟩
  | histDone _ _ _ hf => exact ⟨fun h => by simp [(hR.nofollow hf).1] at h, h2, nofun⟩
  | liveDeliver _ _ last =>
    cases last
    · exact ⟨h1, h2, h3⟩
    · exact ⟨nofun, nofun, h3⟩
  | liveEnd => exact ⟨nofun, nofun, h3⟩

theorem moreHistory_snoc {c : List Frame} {r : Reader} {f : Frame} (h : moreHistory c r = false)
    (hb : beyondCut r.cut f = true) : moreHistory (c ++ [f]) r = false := by
  unfold moreHistory nextFrame at *
  rw [List.find?_append]
  cases hf : c.find? (fun f => inScope r.opts.ctx f && afterId r.cursor f) with
  | some g => simpa [hf] using h
  | none => cases hp : (inScope r.opts.ctx f && afterId r.cursor f) <;> simp [hp, hb]

structure AllInv (s : Sys) : Prop where
  g : Good s
  p : ∀ r, s.reader = some r → InvP r
  /-- after the hand-over nothing within the cut is left for the scan -/
  h : ∀ r, s.reader = some r → r.hphase = .handed → moreHistory s.committed r = false

theorem allInv_init : AllInv {} := ⟨good_init, (fun _ h => nomatch h), (fun _ h => nomatch h)⟩

theorem Step.allInv {s s' : Sys} {a : Act} (e : Step s a s') (h : AllInv s) : AllInv s' := by
  refine ⟨e.good h.g, e.reader_inv h.p (fun _ _ => invP_start ..)
    (fun _ _ _ hP => { hP with })
    (fun r _ _ hr hP e => hP.rstep (h.g.inv.rd r hr) e), ?_⟩
  induction e with
  | appendId | appendAbort => exact h.h
  | appendCommit f hl =>
    -- the frame in flight is beyond the cut of a reader that has handed over
    intro r hr hh
    obtain ⟨c, hc⟩ := (h.g.cutc r hr).cutAt ((h.p r hr).handed_follow hh)
    exact moreHistory_snoc (h.h r hr hh) (by simp [beyondCut, hc.cut_eq, hc.lt_lock f false hl])
  | appendBroadcast f =>
    rintro _ hr
    obtain ⟨r0, q, l, hr0, rfl⟩ := receive_eq hr
    exact h.h r0 hr0
  | subscribe o => rintro _ ⟨⟩ hh; simp only [Reader.start] at hh; split at hh <;> cases hh
  | r a r r' hr e =>
    rintro _ ⟨⟩ hh
    induction e with
    | histSend _ hph => exact absurd (hph ▸ hh) nofun
    | histLimit | histDone => cases hh
    | handOver _ hm => exact hm
    | liveSkip | liveDeliver | liveEnd | pulse => exact h.h r hr hh

/-- the invariants of the reader of a reachable state -/
structure ReaderInv (s : Sys) (r : Reader) : Prop where
  i1 : Inv1 s
  R : InvR s.committed s.bcast r
  T : InvT r
  C : InvC s r
  P : InvP r
  H : r.hphase = .handed → moreHistory s.committed r = false

theorem reachable_reader {as : List Act} {s : Sys} {r : Reader} (e : run {} as = some s)
    (hr : s.reader = some r) : ReaderInv s r :=
  let h := run_induction (fun h e => e.allInv h) allInv_init as e
  ⟨h.g.inv.i1, h.g.inv.rd r hr, h.g.thr r hr, h.g.cutc r hr, h.p r hr, h.h r hr⟩

/-- no reader-side step is possible any more -/
def Quiescent (committed : List Frame) (r : Reader) : Prop := ∀ a, stepReader committed r a = none

theorem Quiescent.not_rstep {c : List Frame} {r r' : Reader} {a : RAct} (hq : Quiescent c r)
    (e : RStep c r a r') : False := by
  cases (hq a).symm.trans e.to_stepReader

/-- once the history thread is not scanning and the live task is not running, every sender is gone -/
theorem closed_of_idle {r : Reader} (hT : InvT r) (hP : InvP r) (hns : r.hphase ≠ .scanning)
    (hnr : r.lphase ≠ .running) : r.closed = true := by
  have hnw : r.lphase ≠ .waiting := fun h => hns (hP.wait_scan h)
  have hl : r.lphase = .ended ∨ r.lphase = .absent := by cases h : r.lphase <;> simp [h] at hnr hnw ⊢
  -- a live heartbeat belongs to a follow whose live task has not ended
  have hb : r.hbAlive = false := Bool.eq_false_iff.2 fun hb =>
    hl.elim (hT.hb hb).2.2 fun ha => absurd ((hT.hb hb).1.symm.trans (hP.absent_nofollow ha)) (by decide)
  simp only [Reader.closed, hb, Bool.not_false, Bool.and_true, Bool.and_eq_true, Bool.or_eq_true, decide_eq_true_eq]
  exact ⟨by cases h : r.hphase <;> simp [h] at hns ⊢, hl⟩

/-- C11: once the limit is met and the reader's tasks have wound down, the stream is closed -/
theorem limit_met_closed {s : Sys} {r : Reader} (h : ReaderInv s r) (n : Nat) (hn : r.opts.limit = some n)
    (h1 : 1 ≤ n) (hfull : (realFrames r.out).length = n) (hq : Quiescent s.committed r) : r.closed = true := by
  rw [h.R.out_eq, List.length_append] at hfull
  refine closed_of_idle h.T h.P (fun hsc => ?_) (fun hrun => ?_)
  · -- a scanning history thread that has met the limit can end
    have hlim : limitReached r.opts.limit r.hcount = true := by
      rw [h.R.lout_nil hsc, List.length_nil, Nat.add_zero, ← h.R.hcount_eq] at hfull
      simp [limitReached, hn, hfull]
    exact hq.not_rstep (.histLimit hsc hlim)
  · rcases h.R.lim_live n hn hrun with hlt | ⟨h0, _, _⟩ <;> omega

/-- C11: a subscriber that fell behind ends: at quiescence a lagged follow stream is closed -/
theorem lagged_closed {s : Sys} {r : Reader} (h : ReaderInv s r) (hlag : r.lagged = true)
    (hq : Quiescent s.committed r) (hdone : r.hphase ≠ .scanning) : r.closed = true :=
  closed_of_idle h.T h.P hdone fun hrun => hq.not_rstep (.liveEnd hrun hlag)

/-- C03: the live task's dedupe test never drops a frame broadcast after the subscription -/
theorem livePass_of_new {s : Sys} {r : Reader} (h : ReaderInv s r) (hf : r.opts.follow = true) (f : Frame)
    (hmem : f ∈ s.bcast.drop r.subAt) : livePass r f = inScope r.opts.ctx f := by
  obtain ⟨c, hc⟩ := h.C.cutAt hf
  have := hc.lt_live f hmem
  rcases hc.dedupe with h6 | h6 <;> simp [livePass, h6, dupOfHistory]
  omega

/-- C03: deliveries of a following reader are strictly increasing in id -/
theorem deliveries_sorted {s : Sys} {r : Reader} (h : ReaderInv s r) (hf : r.opts.follow = true) :
    Sorted (realFrames r.out) := by
  obtain ⟨c, hc⟩ := h.C.cutAt hf
  have hlsub : r.lout.Sublist (s.bcast.drop r.subAt) :=
    (h.R.lout_eq ▸ List.filter_sublist).trans ((List.sublist_append_left ..).trans h.R.sub_prefix.sublist)
  rw [h.R.out_eq, Sorted, List.pairwise_append]
  refine ⟨h.R.hout_eq ▸ h.i1.cs.sublist List.filter_sublist,
    h.i1.bs.sublist (hlsub.trans (List.drop_sublist ..)), fun a ha b hb => ?_⟩
  exact Nat.lt_of_le_of_lt (hc.hout_le a ha) (hc.lt_live b (hlsub.subset hb))

end Xs.Follow
