/-
  What the read paths return, in terms of the stored frames. The two index scans are instances
  of one lemma (`InvK.scan_eq`); the read loops are filter-then-take of what the scan yields.
  `reopen_inv` is here because a restart rebuilds the registry by a context-scoped scan.
  `inScope` / `afterLast` are the filters of a read on a store state; the follow model has the same two
  tests under `Follow.inScope` / `Follow.afterId`, and nothing here relates the two models.
-/
import XsProofs.Ops
namespace Xs
open Part

attribute [local irreducible] be unbe

/-- scope filter of a read: one context, or all -/
def inScope (ctx : Option Nat) (f : Frame) : Bool :=
  match ctx with
  | none => true
  | some c => decide (f.ctx = c)

/-- resume filter of a read: strictly after `last-id` -/
def afterLast (last : Option Nat) (f : Frame) : Bool :=
  match last with
  | none => true
  | some l => decide (l < f.id)

theorem frames_sorted {s : State} (h : InvK s) : (frames s).Pairwise (fun a b => a.id < b.id) := by
  rw [frames, List.pairwise_map]
  refine h.sS.imp_of_mem fun {a b} ha hb hlt => ?_
  obtain ⟨ea, wa⟩ := h.wf a ha
  obtain ⟨eb, wb⟩ := h.wf b hb
  rw [ea, eb] at hlt
  exact (idKey_lt_iff wa.id_lt wb.id_lt).1 hlt

/-- all-contexts scan: the stored frames after `last-id`, in id order -/
theorem iterFrames_all {s : State} (h : InvK s) (last : Option Nat)
    (hl : ∀ l, last = some l → l < idBound) :
    s.iterFrames none last = (frames s).filter (afterLast last) := by
  rw [State.iterFrames, frames, List.filter_map, Part.range]
  refine congrArg _ (List.filter_congr fun kv hkv => ?_)
  obtain ⟨e, w⟩ := h.wf kv hkv
  cases last with
  | none => rfl
  | some l => simp [allLower, Bound.lowerOk, Bound.upperOk, afterLast, e, idKey_lt_iff (hl l rfl) w.id_lt]

/-- the context range `[ctx, ctx+1)` / `(ctx‖last, ctx+1)` selects exactly the keys of `c` -/
theorem ctx_range_exact {c c' i : Nat} (last : Option Nat) (hcb : c < idBound)
    (hc' : c' < idBound) (hi : i < idBound) (hl : ∀ l, last = some l → l < idBound) :
    ((ctxLower c last).lowerOk (ctxKey c' i) &&
      (ctxUpper c).upperOk (ctxKey c' i)) = true ↔
    c' = c ∧ (∀ l, last = some l → l < i) := by
  -- open-ended for the last context id
  have hup : (ctxUpper c).upperOk (ctxKey c' i) = true ↔ c' ≤ c := by
    unfold ctxUpper
    split
    · simp only [Bound.upperOk, decide_eq_true_eq, ctxKey_lt_be hc' ‹_›, Nat.lt_succ_iff]
    · simp only [Bound.upperOk, true_iff]; omega
  have hlo : (ctxLower c last).lowerOk (ctxKey c' i) = true ↔
      c < c' ∨ (c = c' ∧ ∀ l, last = some l → l < i) := by
    cases last with
    | none =>
      simp only [ctxLower, Bound.lowerOk, decide_eq_true_eq, ← List.not_lt, ctxKey_lt_be hc' hcb, Nat.not_lt,
        Nat.le_iff_lt_or_eq]
      exact or_congr_right (iff_self_and.2 fun _ => nofun)
    | some l =>
      simp only [ctxLower, Bound.lowerOk, decide_eq_true_eq, Option.some.injEq, forall_eq']
      exact ctxKey_lt_iff hcb hc' (hl l rfl) hi
  rw [Bool.and_eq_true, hup, hlo]
  exact ⟨fun ⟨h1, h2⟩ => (h1.resolve_left (Nat.not_lt.2 h2)).imp_left Eq.symm,
    fun ⟨e, h⟩ => ⟨.inr ⟨e.symm, h⟩, Nat.le_of_eq e⟩⟩

/-- An index scan. `p` indexes the stored frames under the key layout `κ`, and the scan keeps the
    keys that satisfy `sel`. If `sel` on the key of a stored frame is the frame predicate `q`, and
    among such frames `κ` grows with the id, the scan finds the keys of the stored frames that
    satisfy `q`, in id order. -/
theorem InvK.scan_eq {s : State} (h : InvK s) {κ : Frame → Key} {p : Part Unit} (hs : Sorted p)
    (hp : ∀ k, (k, ()) ∈ p ↔ ∃ f ∈ frames s, k = κ f) {sel : Key → Bool} {q : Frame → Bool}
    (hsel : ∀ f ∈ frames s, sel (κ f) = q f)
    (hmono : ∀ f ∈ frames s, ∀ g ∈ frames s, q f = true → q g = true → f.id < g.id → κ f < κ g) :
    p.filter (fun kv => sel kv.1) = ((frames s).filter q).map fun f => (κ f, ()) := by
  refine eq_of_pairwise_of_mem_iff (R := fun a b : Key × Unit => a.1 < b.1) List.lt_asymm
    (sorted_filter _ hs) ?_ ?_
  · rw [List.pairwise_map]
    refine ((frames_sorted h).filter q).imp_of_mem fun {f g} hf hg hlt => ?_
    obtain ⟨hf, qf⟩ := List.mem_filter.1 hf
    obtain ⟨hg, qg⟩ := List.mem_filter.1 hg
    exact hmono f hf g hg qf qg hlt
  · rintro ⟨k, ⟨⟩⟩
    simp only [List.mem_filter, hp, List.mem_map, Prod.mk.injEq, and_true]
    constructor
    · rintro ⟨⟨f, hf, rfl⟩, hk⟩; exact ⟨f, ⟨hf, hsel f hf ▸ hk⟩, rfl⟩
    · rintro ⟨f, ⟨hf, qf⟩, rfl⟩; exact ⟨⟨f, hf, rfl⟩, (hsel f hf).trans qf⟩

/-- context-scoped scan: the stored frames of that context after `last-id`, in id order - for
    every 128-bit context id, the all-ones id included (its range is open-ended; F12, fixed) -/
theorem iterFrames_ctx {s : State} (h : InvK s) (c : Nat) (last : Option Nat)
    (hc : c < idBound) (hl : ∀ l, last = some l → l < idBound) :
    s.iterFrames (some c) last =
      (frames s).filter (fun f => inScope (some c) f && afterLast last f) := by
  rw [State.iterFrames, Part.range, h.scan_eq (κ := fun f => ctxKey f.ctx f.id)
      (sel := fun k => (ctxLower c last).lowerOk k && (ctxUpper c).upperOk k)
      (q := fun f => inScope (some c) f && afterLast last f) h.sC h.cKeys ?_ ?_,
    List.filterMap_map, filterMap_eq_map_of (g := id), List.map_id]
  · intro f hf
    have hf := (List.mem_filter.1 hf).1
    simp [ctxKey_length, idOfCtxKey_ctxKey (h.wfFrame hf).id_lt, h.get_of_mem hf]
  · intro f hf
    have w := h.wfFrame hf
    rw [Bool.eq_iff_iff, ctx_range_exact last hc w.ctx_lt w.id_lt hl]
    cases last <;> simp [inScope, afterLast]
  · intro f hf g hg qf qg hlt
    simp only [inScope, Bool.and_eq_true, decide_eq_true_eq] at qf qg
    rw [qf.1, qg.1]
    exact (ctxKey_lt_iff hc hc (h.wfFrame hf).id_lt (h.wfFrame hg).id_lt).2 (.inr ⟨rfl, hlt⟩)

/-- frames that carry no elapsed `time:N` ttl -/
def liveAt (now : Nat) (f : Frame) : Bool := !f.expired now

/-- the frames a read is specified to return, before the limit is applied (`cut`): stored, in
    scope, after `last-id`, not expired; in id order -/
def liveHistory (s : State) (ctx last : Option Nat) (now : Nat) : List Frame :=
  (frames s).filter (fun f => inScope ctx f && afterLast last f && liveAt now f)

def cut (limit : Option Nat) (l : List Frame) : List Frame :=
  match limit with
  | none => l
  | some n => l.take n

/-- the `Remove` tasks a scan of `l` can queue: one per expired frame, in order -/
def expiredTasks (now : Nat) (l : List Frame) : List GCTask :=
  (l.filter (·.expired now)).map fun f => .remove f.id

theorem mem_expiredTasks {now : Nat} {l : List Frame} {t : GCTask} :
    t ∈ expiredTasks now l ↔ ∃ f ∈ l, t = .remove f.id ∧ f.expired now = true := by
  simp only [expiredTasks, List.mem_map, List.mem_filter, and_assoc, eq_comm (a := t)]
  exact exists_congr fun f => and_congr_right fun _ => and_comm

theorem readSyncGo_frames (now : Nat) (n : Nat) (l : List Frame) :
    (readSyncGo now n l).1 = (l.filter (liveAt now)).take n := by
  fun_induction readSyncGo now n l <;> simp_all [liveAt]

theorem readSyncGo_tasks (now : Nat) (n : Nat) (l : List Frame) :
    (readSyncGo now n l).2.Sublist (expiredTasks now l) := by
  fun_induction readSyncGo now n l <;> simp_all [expiredTasks]

theorem readSyncGo_tasks_all (now : Nat) (n : Nat) (l : List Frame) (hn : l.length ≤ n) :
    (readSyncGo now n l).2 = expiredTasks now l := by
  fun_induction readSyncGo now n l with
  | case1 l =>
    cases List.length_eq_zero_iff.1 (Nat.le_zero.1 hn)
    rfl
  | case2 => rfl
  | case3 n f r he o g e ih => simpa [expiredTasks, he, e] using ih (Nat.le_of_succ_le hn)
  | case4 n f r he o g e ih => simpa [expiredTasks, he, e] using ih (Nat.le_of_succ_le_succ hn)

theorem readHistGo_frames (now : Nat) (limit : Option Nat) (count : Nat) (l : List Frame) :
    (readHistGo now limit count l).1 = cut (limit.map (· - count)) (l.filter (liveAt now)) := by
  fun_induction readHistGo now limit count l with
  | case1 => cases limit <;> simp [cut]
  | case2 count f r he o g e ih => simpa [liveAt, he, e] using ih
  | case3 count f r he hl =>
    cases limit with
    | none => cases hl
    | some n => simp [cut, Nat.sub_eq_zero_of_le (of_decide_eq_true hl)]
  | case4 count f r he hl o g e ih =>
    rw [e] at ih
    rw [List.filter_cons_of_pos (by simp [liveAt, he])]
    cases limit with
    | none => exact congrArg _ ih
    | some n =>
      have : n - count = n - (count + 1) + 1 :=
        (Nat.sub_add_cancel (Nat.sub_pos_of_lt (by simpa using hl))).symm
      simp only [Option.map, cut, this, List.take_succ_cons]
      exact congrArg _ ih

theorem readHistGo_tasks (now : Nat) (limit : Option Nat) (count : Nat) (l : List Frame) :
    (readHistGo now limit count l).2.Sublist (expiredTasks now l) := by
  fun_induction readHistGo now limit count l <;> simp_all [expiredTasks]

theorem scanClock_eq (clock : Nat → Nat) (j : Nat) (fs : List Frame) :
    scanClock clock j fs = ((fs.zipIdx j).filter fun p => !p.1.expired (clock p.2)).map (·.1) := by
  induction fs generalizing j with
  | nil => rfl
  | cons g rest ih => rw [scanClock, ih, List.zipIdx_cons, List.filter_cons]; cases g.expired (clock j) <;> rfl

/-- hypotheses under which the scans are exact: ids are 128-bit -/
structure WfRead (ctx last : Option Nat) : Prop where
  ctx_ok : ∀ c, ctx = some c → c < idBound
  last_ok : ∀ l, last = some l → l < idBound

theorem iterFrames_spec {s : State} (h : InvK s) {ctx last : Option Nat} (w : WfRead ctx last) :
    s.iterFrames ctx last = (frames s).filter (fun f => inScope ctx f && afterLast last f) := by
  cases ctx with
  | none => simp only [iterFrames_all h last w.last_ok, inScope, Bool.true_and]
  | some c => exact iterFrames_ctx h c last (w.ctx_ok c rfl) w.last_ok

theorem wfRead_none : WfRead none none := ⟨nofun, nofun⟩

theorem wfRead_ctx {c : Nat} {last : Option Nat} (hc : c < idBound) (hl : ∀ l, last = some l → l < idBound) :
    WfRead (some c) last := ⟨fun _ e => Option.some.inj e ▸ hc, hl⟩

theorem wfRead_ctx_none {c : Nat} (hc : c < idBound) : WfRead (some c) none := wfRead_ctx hc nofun

theorem mem_iterFrames {s : State} (h : InvK s) {ctx last : Option Nat} (w : WfRead ctx last) {f : Frame} :
    f ∈ s.iterFrames ctx last ↔ f ∈ frames s ∧ inScope ctx f = true ∧ afterLast last f = true := by
  simp only [iterFrames_spec h w, List.mem_filter, Bool.and_eq_true]

/-- whatever its bounds, a scan yields stored frames only (`mem_iterFrames` is exact, for 128-bit bounds) -/
theorem mem_frames_of_mem_iterFrames {s : State} (h : InvK s) {ctx last : Option Nat} {f : Frame}
    (hf : f ∈ s.iterFrames ctx last) : f ∈ frames s := by
  unfold State.iterFrames at hf
  cases ctx with
  | none =>
    obtain ⟨kv, hkv, rfl⟩ := List.mem_map.1 hf
    exact mem_frames.2 ⟨kv.1, ((Part.mem_range _).1 hkv).1⟩
  | some c =>
    obtain ⟨kv, _, e⟩ := List.mem_filterMap.1 hf
    split at e
    · exact (h.get_eq_some_iff.1 e).1
    · cases e

theorem filter_liveAt_iter {s : State} (h : InvK s) {ctx last : Option Nat} (w : WfRead ctx last)
    (now : Nat) : (s.iterFrames ctx last).filter (liveAt now) = liveHistory s ctx last now := by
  rw [iterFrames_spec h w, List.filter_filter, liveHistory]
  exact List.filter_congr fun f _ => Bool.and_comm ..

/-- C01, synchronous path -/
theorem readSync_spec {s : State} (h : InvK s) {ctx last : Option Nat} (w : WfRead ctx last)
    (limit : Option Nat) (now : Nat) :
    (s.readSync ctx last limit now).2 = cut limit (liveHistory s ctx last now) := by
  simp only [State.readSync, readSyncGo_frames, filter_liveAt_iter h w]
  cases limit with
  | none => exact List.take_of_length_le (filter_liveAt_iter h w now ▸ List.length_filter_le ..)
  | some n => rfl

/-- C01, streaming path without follow -/
theorem readHist_spec {s : State} (h : InvK s) {ctx last : Option Nat} (w : WfRead ctx last)
    (limit : Option Nat) (now : Nat) :
    (s.readHist ctx last limit now).2 = cut limit (liveHistory s ctx last now) := by
  simp only [State.readHist, readHistGo_frames, filter_liveAt_iter h w]
  cases limit <;> rfl

theorem liveHistory_sorted {s : State} (h : InvK s) (ctx last : Option Nat) (now : Nat) :
    (liveHistory s ctx last now).Pairwise (fun a b => a.id < b.id) :=
  (frames_sorted h).filter _

theorem cut_sublist (limit : Option Nat) (l : List Frame) : (cut limit l).Sublist l := by
  cases limit with
  | none => exact List.Sublist.refl _
  | some n => exact List.take_sublist _ _

theorem mem_liveHistory {s : State} {ctx last : Option Nat} {now : Nat} {f : Frame} :
    f ∈ liveHistory s ctx last now ↔
      f ∈ frames s ∧ inScope ctx f = true ∧ afterLast last f = true ∧ f.expired now = false := by
  simp [liveHistory, liveAt, and_assoc]

theorem mem_read {s : State} (h : InvK s) {ctx last : Option Nat} (w : WfRead ctx last) {limit : Option Nat}
    {now : Nat} {f : Frame}
    (hf : f ∈ (s.readSync ctx last limit now).2 ∨ f ∈ (s.readHist ctx last limit now).2) :
    f ∈ frames s ∧ inScope ctx f = true ∧ afterLast last f = true ∧ f.expired now = false := by
  rw [readSync_spec h w, readHist_spec h w, or_self] at hf
  exact mem_liveHistory.1 ((cut_sublist limit _).subset hf)

/-- the stored frames of one (context, topic), oldest first -/
def topicFrames (s : State) (c : Nat) (t : List Nat) : List Frame :=
  (frames s).filter (fun f => decide (f.ctx = c) && decide (f.topic = t))

/-- the prefix scan `ctx‖topic‖0x00` of the topic index finds the keys of the stored frames of that
    context and topic, oldest first -/
theorem topicScan_eq {s : State} (h : InvK s) {t : List Nat} {c : Nat} (ht : NulFree t) (hc : c < idBound) :
    Part.scanPrefix (topicPrefix c t) s.idxT =
      (topicFrames s c t).map fun f => (topicKey f.ctx f.topic f.id, ()) := by
  refine h.scan_eq (κ := fun f => topicKey f.ctx f.topic f.id) (sel := (topicPrefix c t).isPrefixOf)
    h.sT h.tKeys (fun f hf => ?_) (fun f hf g hg qf qg hlt => ?_)
  · have w := h.wfFrame hf
    rw [Bool.eq_iff_iff, topicPrefix_isPrefixOf_topicKey hc w.ctx_lt ht w.nul]
    simp only [Bool.and_eq_true, decide_eq_true_eq]
    exact and_congr eq_comm eq_comm
  · simp only [Bool.and_eq_true, decide_eq_true_eq] at qf qg
    rw [qf.1, qf.2, qg.1, qg.2]
    exact (topicKey_lt_iff (h.wfFrame hf).id_lt (h.wfFrame hg).id_lt).2 hlt

/-- the ids the gc scan sees for a topic are the ids of its stored frames, oldest first -/
theorem topicScan_ids {s : State} (h : InvK s) {t : List Nat} {c : Nat} (ht : NulFree t)
    (hc : c < idBound) :
    (Part.scanPrefix (topicPrefix c t) s.idxT).map (fun kv => idOfTopicKey kv.1) =
      (topicFrames s c t).map (·.id) := by
  rw [topicScan_eq h ht hc, List.map_map]
  exact List.map_congr_left fun f hf => idOfTopicKey_topicKey (h.wfFrame (List.mem_filter.1 hf).1).id_lt

/-- C05: `head(topic, ctx)` is the newest stored frame of exactly that context and topic -/
theorem head_spec {s : State} (h : InvK s) {t : List Nat} {c : Nat} (ht : NulFree t)
    (hc : c < idBound) : s.head t c = (topicFrames s c t).getLast? := by
  unfold State.head
  rw [if_neg (by simp [hasNul_eq_false_iff.2 ht]), ← List.getLast?_filterMap, topicScan_eq h ht hc,
    List.filterMap_map, filterMap_eq_map_of (g := id), List.map_id]
  -- each key of the scan resolves, through the primary partition, to its frame
  intro f hf
  have hf := (List.mem_filter.1 hf).1
  simp [idOfTopicKey_topicKey (h.wfFrame hf).id_lt, h.get_of_mem hf]

theorem head_nul {s : State} {t : List Nat} {c : Nat} (ht : hasNul t = true) : s.head t c = none := by
  simp [State.head, ht]

theorem mem_foldl_ctxInsert (l : List Frame) (init : List Nat) (c : Nat) :
    c ∈ l.foldl (fun acc f => ctxInsert f.id acc) init ↔ c ∈ init ∨ ∃ f ∈ l, f.id = c := by
  induction l generalizing init with
  | nil => simp
  | cons a l ih =>
    simp only [List.foldl_cons, ih, mem_ctxInsert, List.mem_cons, or_and_right, exists_or, exists_eq_left,
      or_assoc, @eq_comm _ c]
    exact or_left_comm

/-- C07: after a restart the registry is again the function of the stored frames -/
theorem reopen_inv {s : State} (h : InvK s) : Inv s.reopen := by
  refine ⟨{ h with }, ?_, fun c => ?_⟩
  · exact List.foldlRecOn (motive := List.Nodup) _ _ (by simp) fun _ h _ _ => nodup_ctxInsert h
  · unfold State.reopen
    rw [mem_foldl_ctxInsert, iterFrames_ctx h 0 none (by decide) nofun]
    simp only [List.mem_singleton, List.mem_filter, inScope, afterLast, Bool.and_true,
      decide_eq_true_eq, Frame.isReg, Bool.and_eq_true]
    exact or_congr_right (exists_congr fun f =>
      ⟨fun ⟨⟨⟨a, b⟩, c⟩, d⟩ => ⟨a, d, c, b⟩, fun ⟨a, d, c, b⟩ => ⟨⟨⟨a, b⟩, c⟩, d⟩⟩)

end Xs
