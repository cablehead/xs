/-
  The partition contract. On a key-sorted association list `erase` is a filter and `insert` puts the
  new entry between two filters (`erase_eq_filter`, `insert_eq`), from which membership after a write
  and the sortedness of `insert` follow; the lookup lemmas are inductions over the list.
-/
import XsModel.Part
namespace Xs

theorem key_lt_of_not {a b : Key} (h1 : ¬ a < b) (h2 : a ≠ b) : b < a :=
  (List.le_iff_lt_or_eq.1 (List.not_lt.1 h1)).resolve_right h2.symm
theorem key_ne_of_lt {a b : Key} (h : a < b) : a ≠ b := by
  rintro rfl; exact List.lt_irrefl _ h
theorem key_ne_iff {a b : Key} : a ≠ b ↔ a < b ∨ b < a :=
  ⟨fun h => (Classical.em (a < b)).imp_right (key_lt_of_not · h),
   fun h => h.elim key_ne_of_lt fun h e => key_ne_of_lt h e.symm⟩

namespace Part
variable {V : Type}

/-- strictly ascending keys -/
def Sorted (p : Part V) : Prop := p.Pairwise (fun a b => a.1 < b.1)

theorem sorted_nil : Sorted ([] : Part V) := List.Pairwise.nil

theorem sorted_cons {a : Key × V} {p : Part V} : Sorted (a :: p) ↔ (∀ b ∈ p, a.1 < b.1) ∧ Sorted p :=
  List.pairwise_cons

theorem Sorted.sublist {p q : Part V} (h : Sorted q) (hs : p.Sublist q) : Sorted p :=
  List.Pairwise.sublist hs h

theorem sorted_filter {p : Part V} (f : Key × V → Bool) (h : Sorted p) : Sorted (p.filter f) :=
  h.sublist List.filter_sublist

theorem erase_eq_filter {k : Key} {p : Part V} (hs : Sorted p) :
    erase k p = p.filter (fun x => x.1 ≠ k) := by
  induction p with
  | nil => rfl
  | cons a p ih =>
    obtain ⟨hlt, hs'⟩ := sorted_cons.1 hs
    by_cases e : k = a.1
    · subst e
      simpa [erase] using (List.filter_eq_self.2 fun b hb => by simpa using (key_ne_of_lt (hlt b hb)).symm).symm
    · simp [erase, e, Ne.symm e, ih hs']

theorem insert_eq {k : Key} {v : V} {p : Part V} (hs : Sorted p) :
    insert k v p = p.filter (fun x => x.1 < k) ++ (k, v) :: p.filter (fun x => k < x.1) := by
  have above : ∀ {q : Part V}, (∀ b ∈ q, k < b.1) →
      q.filter (fun x => x.1 < k) ++ (k, v) :: q.filter (fun x => k < x.1) = (k, v) :: q := fun h => by
    rw [List.filter_eq_nil_iff.2 fun b hb => mt of_decide_eq_true (List.lt_asymm (h b hb)),
      List.filter_eq_self.2 fun b hb => decide_eq_true (h b hb)]; rfl
  induction p with
  | nil => rfl
  | cons a p ih =>
    obtain ⟨hlt, hs'⟩ := sorted_cons.1 hs
    obtain ⟨k', v'⟩ := a
    by_cases h : k < k'
    · rw [insert, if_pos h, above (List.forall_mem_cons.2 ⟨h, fun b hb => List.lt_trans h (hlt b hb)⟩)]
    · by_cases e : k = k'
      · subst e
        simp [insert, h, above hlt]
      · simp [insert, h, e, key_lt_of_not h e, ih hs']

theorem mem_erase {k : Key} {p : Part V} (hs : Sorted p) (x : Key × V) :
    x ∈ erase k p ↔ x ∈ p ∧ x.1 ≠ k := by
  simp [erase_eq_filter hs]

theorem erase_sublist (k : Key) (p : Part V) : (erase k p).Sublist p := by
  induction p with
  | nil => exact .slnil
  | cons a p ih => simp only [erase]; split; exact List.sublist_cons_self _ _; exact ih.cons_cons _

theorem sorted_erase {k : Key} {p : Part V} (hs : Sorted p) : Sorted (erase k p) :=
  hs.sublist (erase_sublist k p)

theorem mem_insert {k : Key} {v : V} {p : Part V} (hs : Sorted p) (x : Key × V) :
    x ∈ insert k v p ↔ x = (k, v) ∨ (x ∈ p ∧ x.1 ≠ k) := by
  simp only [insert_eq hs, List.mem_append, List.mem_cons, List.mem_filter, decide_eq_true_eq, key_ne_iff,
    and_or_left]
  exact or_left_comm

theorem sorted_insert {k : Key} {v : V} {p : Part V} (hs : Sorted p) : Sorted (insert k v p) := by
  rw [insert_eq hs]
  refine List.pairwise_append.2 ⟨sorted_filter _ hs, sorted_cons.2 ⟨?_, sorted_filter _ hs⟩, ?_⟩
  · intro b hb; simpa using (List.mem_filter.1 hb).2
  · simp only [List.mem_filter, List.mem_cons, decide_eq_true_eq]
    rintro a ⟨_, ha⟩ b (rfl | ⟨_, hb⟩)
    · exact ha
    · exact List.lt_trans ha hb

theorem insert_erase_self {k : Key} {v : V} {p : Part V} (hs : Sorted p) :
    insert k v (erase k p) = insert k v p := by
  -- a filter that rejects `k` does not see the erasure
  have same : ∀ {q : Key × V → Bool}, (∀ x, q x = true → x.1 ≠ k) → (erase k p).filter q = p.filter q :=
    fun hq => by
      rw [erase_eq_filter hs, List.filter_filter]
      exact List.filter_congr fun x _ => Bool.and_eq_left_iff_imp.2 fun h => decide_eq_true (hq x h)
  rw [insert_eq (sorted_erase hs), insert_eq hs, same fun x h => key_ne_of_lt (of_decide_eq_true h),
    same fun x h => (key_ne_of_lt (of_decide_eq_true h)).symm]

theorem get_eq_none_iff {k : Key} {p : Part V} : get k p = none ↔ ∀ v, (k, v) ∉ p := by
  induction p with
  | nil => simp [get]
  | cons a p ih =>
    obtain ⟨k', v'⟩ := a
    by_cases e : k = k'
    · rw [get, if_pos e]
      exact ⟨nofun, fun h => absurd (e ▸ List.mem_cons_self) (h v')⟩
    · simp [get, e, ih]

theorem get_eq_some_iff {k : Key} {v : V} {p : Part V} (hs : Sorted p) :
    get k p = some v ↔ (k, v) ∈ p := by
  induction p with
  | nil => simp [get]
  | cons a p ih =>
    obtain ⟨hlt, hs'⟩ := sorted_cons.1 hs
    obtain ⟨k', v'⟩ := a
    by_cases e : k = k'
    · subst e
      have : (k, v) ∉ p := fun h => List.lt_irrefl k (hlt (k, v) h)
      simp [get, this, eq_comm]
    · simp [get, e, ih hs']

theorem Sorted.unique {p : Part V} (hs : Sorted p) {k : Key} {v v' : V}
    (h : (k, v) ∈ p) (h' : (k, v') ∈ p) : v = v' :=
  Option.some.inj (((get_eq_some_iff hs).2 h).symm.trans ((get_eq_some_iff hs).2 h'))

theorem mem_range {lo hi : Bound} {p : Part V} (x : Key × V) :
    x ∈ range lo hi p ↔ x ∈ p ∧ lo.lowerOk x.1 = true ∧ hi.upperOk x.1 = true := by
  simp only [range, List.mem_filter, Bool.and_eq_true]

theorem mem_scanPrefix {pre : Key} {p : Part V} (x : Key × V) :
    x ∈ scanPrefix pre p ↔ x ∈ p ∧ pre.isPrefixOf x.1 = true := by
  simp only [scanPrefix, List.mem_filter]

theorem sorted_range {lo hi : Bound} {p : Part V} (hs : Sorted p) : Sorted (range lo hi p) :=
  sorted_filter _ hs

theorem sorted_scanPrefix {pre : Key} {p : Part V} (hs : Sorted p) : Sorted (scanPrefix pre p) :=
  sorted_filter _ hs

end Part
end Xs
