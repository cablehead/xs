/-
  Each parser is described by what it accepts (`parseUnsigned_eq_some`; `parseTTL_time`, `parseTTL_head`
  after a keyword); the print → parse round trips are then instances.
-/
import XsModel.Ttl
namespace Xs.Wire

theorem isDigit_digit {d : Nat} (h : d < 10) : isDigit (48 + d) = true :=
  decide_eq_true ⟨Nat.le_add_right 48 d, Nat.add_le_add_left (Nat.le_of_lt_succ h) 48⟩

theorem showNat_ne_nil (n : Nat) : showNat n ≠ [] := by
  rw [showNat]; split <;> simp

theorem showNat_digits (n : Nat) : (showNat n).all isDigit = true := by
  induction n using showNat.induct with
  | case1 n h => simp [showNat, h, isDigit_digit]
  | case2 n h ih => rw [showNat, if_neg h]; simp [ih, isDigit_digit, Nat.mod_lt]

theorem digitsVal_showNat (n : Nat) : digitsVal (showNat n) = n := by
  induction n using showNat.induct with
  | case1 n h => rw [showNat, if_pos h]; exact (Nat.zero_add _).trans (Nat.add_sub_cancel_left ..)
  | case2 n h ih =>
    rw [showNat, if_neg h, digitsVal, List.foldl_append, ← digitsVal, ih]
    exact (congrArg _ (Nat.add_sub_cancel_left ..)).trans (Nat.div_add_mod' ..)

theorem parseUnsigned_eq_some {max n : Nat} {s : Text} : parseUnsigned max s = some n ↔
    stripPlus s ≠ [] ∧ (stripPlus s).all isDigit = true ∧ digitsVal (stripPlus s) = n ∧ n ≤ max := by
  -- one conjunct per test of `parseUnsigned`, in its order
  unfold parseUnsigned; grind

theorem stripPlus_digits {s : Text} (h : s.all isDigit = true) : stripPlus s = s := by
  unfold stripPlus
  split
  · simp [isDigit] at h
  · rfl

theorem parseUnsigned_showNat {max n : Nat} (h : n ≤ max) : parseUnsigned max (showNat n) = some n := by
  rw [parseUnsigned_eq_some, stripPlus_digits (showNat_digits n)]
  exact ⟨showNat_ne_nil n, showNat_digits n, digitsVal_showNat n, h⟩

/-- `rfl`: the keyword tests are decided by the first character -/
theorem parseTTL_time (r : Text) : parseTTL (sTime ++ r) =
    match parseUnsigned u64Max r with | some ms => .ok (.time ms) | none => .err .badDuration := by rfl

theorem parseTTL_head (r : Text) : parseTTL (sHead ++ r) =
    match parseUnsigned u32Max r with
    | some n => if n < 1 then .err .headZero else .ok (.head n)
    | none => .err .badHeadN := by rfl

/-- C12: every TTL value survives print → parse (the JSON string and the query value share
    this spelling) -/
theorem parseTTL_printTTL (t : TTL) (w : WfTTL t) : parseTTL (printTTL t) = .ok t := by
  cases t with
  | forever | ephemeral => rfl
  | time ms => rw [printTTL, parseTTL_time, parseUnsigned_showNat w]
  | head n => rw [printTTL, parseTTL_head, parseUnsigned_showNat w.2]; exact if_neg (Nat.not_lt.2 w.1)

end Xs.Wire
