/-
  What the C19 statements share: the stamps of a call's frames, the laws of the definition table, and
  that the table does not depend on whether a frame was met in the history or live.
-/
import XsModel.Command
import XsProofs.Registry
namespace Xs.Serve

theorem cstamp_ids (m : Option (List (String × String))) (cid fid : Nat) :
    metaGet (cstamp m cid fid) "command_id" = some (idText cid) ∧
    metaGet (cstamp m cid fid) "frame_id" = some (idText fid) :=
  metaGet_metaSet_two (by simp)

variable (parse : SFrame → Except String CDef) (eval : CDef → SFrame → CallRes)

theorem ctblGet_insert_same (t : List CEntry) (k : Key) (d : CDef) : ctblGet (ctblInsert t k d) k = some d :=
  congrArg (Option.map CEntry.d) (find?_insert_same CEntry.key t (e := ⟨k, d⟩) rfl)

theorem ctblGet_insert_other {t : List CEntry} {k k' : Key} {d : CDef} (hne : k' ≠ k) :
    ctblGet (ctblInsert t k d) k' = ctblGet t k' :=
  congrArg (Option.map CEntry.d) (find?_insert_other CEntry.key t (e := ⟨k, d⟩) rfl hne)

theorem cmdStep_table_phase (t : List CEntry) (f : SFrame) :
    (cmdStep parse eval true t f).1 = (cmdStep parse eval false t f).1 := by
  unfold cmdStep
  rcases cclassify f.topic with _ | ⟨n, _ | _ | _⟩
  · rfl
  · cases parse f <;> rfl
  · cases h : ctblGet t (f.ctx, n) <;> simp [h]
  · rfl

/-- C17/C19: the table is a function of the `.define` frames gone through, whether they were
    met in the history or live -/
theorem cmdRun_table_phase (t : List CEntry) (l : List SFrame) :
    (cmdRun parse eval true t l).1 = (cmdRun parse eval false t l).1 := by
  induction l generalizing t with
  | nil => rfl
  | cons f rest ih => simp only [cmdRun, cmdStep_table_phase, ih]

theorem cmdRun_append_table (live : Bool) (t : List CEntry) (l1 l2 : List SFrame) :
    (cmdRun parse eval live t (l1 ++ l2)).1 = (cmdRun parse eval live (cmdRun parse eval live t l1).1 l2).1 := by
  induction l1 generalizing t with
  | nil => rfl
  | cons f rest ih => simp only [List.cons_append, cmdRun, ih]

end Xs.Serve
