/-
  Durability (C04). Every operation is the list of write batches it commits (`opBatches`);
  applying a batch to the partitions is exactly what the store function does to them, so
  replaying a journal gives the partitions of the state the history leaves.
-/
import XsModel.Journal
import XsProofs.Ops
namespace Xs.Journal

theorem applyBatch_append (p : Parts) (a b : Batch) : applyBatch p (a ++ b) = applyBatch (applyBatch p a) b :=
  List.foldl_append

theorem applyBatch_insertBatch (s : State) (f : Frame) :
    applyBatch (Parts.ofState s) (insertBatch s f) = Parts.ofState (s.insertFrameCore f) := by
  unfold insertBatch State.insertFrameCore Parts.ofState
  cases s.get f.id with
  | none => rfl
  | some o => simp only []; split <;> split <;> rfl

theorem applyBatch_removeBatch (s : State) (id : Nat) :
    applyBatch (Parts.ofState s) (removeBatch s id) = Parts.ofState (s.remove id) := by
  unfold removeBatch State.remove Parts.ofState
  cases s.get id with
  | none => rfl
  | some f => dsimp only; cases hasNul f.topic <;> rfl

def applyAll (p : Parts) (bs : List Batch) : Parts := bs.foldl applyBatch p

theorem applyAll_append (p : Parts) (a b : List Batch) : applyAll p (a ++ b) = applyAll (applyAll p a) b :=
  List.foldl_append

theorem applyAll_removes (s : State) (ids : List Nat) :
    applyAll (Parts.ofState s) (removesBatches s ids) = Parts.ofState (ids.foldl State.remove s) := by
  induction ids generalizing s with
  | nil => rfl
  | cons a l ih => exact (congrArg (applyAll · _) (applyBatch_removeBatch s a)).trans (ih _)

theorem applyAll_task (s : State) (t : GCTask) :
    applyAll (Parts.ofState s) (taskBatches s t) = Parts.ofState (s.applyTask t) := by
  cases t with
  | remove id => exact applyBatch_removeBatch s id
  | checkHead c tp keep => exact applyAll_removes s _

theorem applyAll_tasks (s : State) (ts : List GCTask) :
    applyAll (Parts.ofState s) (tasksBatches s ts) = Parts.ofState (ts.foldl State.applyTask s) := by
  induction ts generalizing s with
  | nil => rfl
  | cons a l ih => rw [tasksBatches, applyAll_append, applyAll_task, ih, List.foldl_cons]

theorem step_parts (s : State) (op : Op) :
    applyAll (Parts.ofState s) (opBatches s op) = Parts.ofState (s.step op) := by
  cases op with
  | append f id =>
    dsimp only [opBatches, State.step]
    cases e : s.append f id with
    | error _ => rfl
    | ok r =>
      obtain ⟨s', f'⟩ := r
      dsimp only
      rcases append_cases e with ⟨he, rfl⟩ | ⟨he, _, rfl⟩
      · rw [if_pos he]; rfl
      · rw [if_neg he]
        -- unfolded first: folded, `storedState` and `insertFrameCore` are compared as whole states, which fails late
        unfold Parts.ofState
        exact applyBatch_insertBatch s f'
  | importF f =>
    dsimp only [opBatches, State.step]
    cases e : s.insertFrame f with
    | error _ => rfl
    | ok s' => rw [(insertFrame_ok e).2.2]; exact applyBatch_insertBatch s f
  | remove id => exact applyBatch_removeBatch s id
  | gc =>
    dsimp only [opBatches, State.step, State.gcStep]
    cases s.gcq with
    | nil => rfl
    | cons t q => exact applyAll_task { s with gcq := q } t
  | drain => exact applyAll_tasks { s with gcq := [] } s.gcq
  | _ => rfl

theorem journal_replay (s : State) (ops : List Op) :
    applyAll (Parts.ofState s) (journal s ops) = Parts.ofState (s.run ops) := by
  induction ops generalizing s with
  | nil => rfl
  | cons op rest ih => rw [journal, applyAll_append, step_parts, ih]; rfl

theorem journal_append (s : State) (a b : List Op) :
    journal s (a ++ b) = journal s a ++ journal (s.run a) b := by
  induction a generalizing s with
  | nil => rfl
  | cons op rest ih =>
    simp only [List.cons_append, journal, State.run, List.foldl_cons, ih, List.append_assoc]

/-- recovery when the journal of `pre` is followed by further complete batches -/
theorem recover_journal_append (pre : List Op) (bs : List Batch) (torn : Option Batch) :
    recover { complete := journal State.init pre ++ bs, torn := torn } =
      applyAll (Parts.ofState (State.init.run pre)) bs :=
  (applyAll_append ..).trans (congrArg (applyAll · bs) (journal_replay State.init pre))

end Xs.Journal
