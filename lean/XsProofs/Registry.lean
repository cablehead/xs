/-
  The handler serve loop's start-up scan and `start_handler`.  The scan is shown to be a keyed scan in
  the sense of `XsProofs/Keyed.lean` (`compactStep_eq`, needing unique keys), so that what it retains
  (`Retained`) comes from `mem_scan`; `hits_iff` and `retained_iff` say what drops a registration.
  Topics are related to `classify` by `classify_eq_iff`, `start_handler` is described by
  `startHandler_eq_some`.
-/
import XsModel.Registry
import XsProofs.Handler
namespace Xs.Serve

theorem rsplitDotAux_append {l : List Char} (a acc : List Char) (hl : '.' ∉ l) :
    rsplitDotAux (l ++ '.' :: a) acc = some (a.reverse, l.reverse ++ acc) := by
  induction l generalizing acc with
  | nil => simp [rsplitDotAux]
  | cons c l ih =>
    rw [List.mem_cons, not_or] at hl
    simp [rsplitDotAux, Ne.symm hl.1, ih _ hl.2]

/-- the law the serve loops rely on: `<name>.<suffix>` splits into name and suffix when the
    suffix has no dot (the name may) -/
theorem rsplitDot_append (a : List Char) {b : List Char} (hb : '.' ∉ b) : rsplitDot (a ++ '.' :: b) = some (a, b) := by
  simpa [rsplitDot] using rsplitDotAux_append (l := b.reverse) a.reverse [] (by simpa using hb)

theorem rsplitDotAux_eq_some {l acc a b : List Char} (h : rsplitDotAux l acc = some (a, b)) :
    ∃ b0, b = b0 ++ acc ∧ l = b0.reverse ++ '.' :: a.reverse ∧ '.' ∉ b0 := by
  induction l generalizing acc with
  | nil => cases h
  | cons c rest ih =>
    unfold rsplitDotAux at h
    split at h
    next hc => cases h; exact ⟨[], rfl, by simp [hc], by simp⟩
    next hc =>
      obtain ⟨b0, rfl, rfl, hn⟩ := ih h
      exact ⟨b0 ++ [c], by simp, by simp, by simpa [hn] using Ne.symm hc⟩

theorem rsplitDot_eq_some {s a b : List Char} (h : rsplitDot s = some (a, b)) : s = a ++ '.' :: b ∧ '.' ∉ b := by
  obtain ⟨b0, rfl, hl, hn⟩ := rsplitDotAux_eq_some h
  exact ⟨by simpa using congrArg List.reverse hl, by simpa using hn⟩

theorem mem_tblRemove {t : List Entry} {k : Key} {e : Entry} : e ∈ tblRemove t k ↔ e ∈ t ∧ e.key ≠ k := by
  simp [tblRemove, List.mem_filter]

theorem mem_tblInsert {t : List Entry} {k : Key} {f : SFrame} {e : Entry} :
    e ∈ tblInsert t k f ↔ (e ∈ t ∧ e.key ≠ k) ∨ e = ⟨k, f⟩ := by
  simp [tblInsert, mem_tblRemove]

def KeysNodup (t : List Entry) : Prop := (t.map (·.key)).Nodup

theorem tblGet_some {t : List Entry} {k : Key} {r : SFrame} (h : tblGet t k = some r) : ⟨k, r⟩ ∈ t := by
  obtain ⟨⟨k', r'⟩, hf, rfl⟩ := Option.map_eq_some_iff.mp h
  obtain rfl : k' = k := by simpa using List.find?_some hf
  exact List.mem_of_find?_eq_some hf

/-- does the later historical frame `f` drop the registration `r` held under `k`? -/
def hits (k : Key) (r f : SFrame) : Bool :=
  match classify f.topic with
  | some (n, .register) => (f.ctx, n) = k
  | some (n, .unregister) => (f.ctx, n) = k
  | some (n, .unregistered) => (f.ctx, n) = k && metaGet f.mdata "handler_id" = some (idText r.id)
  | _ => false

def regOf (k : Key) (r : SFrame) : Prop := classify r.topic = some (k.2, .register) ∧ r.ctx = k.1

/-- `r` is a `.register` of key `k` somewhere in the history and nothing after it drops it -/
def Retained (h : List SFrame) (k : Key) (r : SFrame) : Prop :=
  ∃ pre post, h = pre ++ r :: post ∧ regOf k r ∧ ∀ f ∈ post, hits k r f = false

/-- the entry a frame of the history writes: a `.register` puts itself under (context, name) -/
def regEntry (f : SFrame) : Option Entry :=
  match classify f.topic with
  | some (n, .register) => some ⟨(f.ctx, n), f⟩
  | _ => none

theorem regEntry_eq_some {f : SFrame} {e : Entry} : regEntry f = some e ↔ e.reg = f ∧ regOf e.key f := by
  unfold regEntry regOf
  constructor
  · intro h
    split at h <;> cases h
    next hc => exact ⟨rfl, hc, rfl⟩
  · rintro ⟨rfl, hc, hx⟩
    simp only [hc, hx]

theorem hits_iff {k : Key} {r f : SFrame} : hits k r f = true ↔ f.ctx = k.1 ∧
    (classify f.topic = some (k.2, .register) ∨ classify f.topic = some (k.2, .unregister) ∨
      (classify f.topic = some (k.2, .unregistered) ∧ metaGet f.mdata "handler_id" = some (idText r.id))) := by
  obtain ⟨c, n⟩ := k
  unfold hits
  rcases classify f.topic with _ | ⟨n', _ | _ | _ | _⟩ <;> simp [and_assoc]

theorem hits_key {k : Key} {r f : SFrame} (h : hits k r f = true) :
    ∃ n kd, classify f.topic = some (n, kd) ∧ (f.ctx, n) = k := by
  obtain ⟨hc, h | h | ⟨h, _⟩⟩ := hits_iff.mp h <;> exact ⟨_, _, h, by rw [hc]⟩

/-- the start-up scan step says which entries a frame drops and which it writes.  For
    `<name>.unregistered` the model looks the key up (`tblGet`) where the scan tests every entry: the
    same as long as keys are unique (`filter_key_and`) -/
theorem compactStep_eq {t : List Entry} (hn : KeysNodup t) (f : SFrame) :
    compactStep t f = scanStep (fun e => hits e.key e.reg) regEntry t f := by
  symm
  unfold compactStep scanStep regEntry
  dsimp only [hits]
  rcases classify f.topic with _ | ⟨n, _ | _ | _ | _⟩
  · simp
  · simp [tblInsert, tblRemove, eq_comm]
  · simp [tblRemove, eq_comm]
  · simp only [Option.toList_none, List.append_nil, eq_comm (a := (f.ctx, n)), tblGet,
      filter_key_and Entry.key hn (f.ctx, n) fun e => metaGet f.mdata "handler_id" = some (idText e.reg.id)]
    cases metaGet f.mdata "handler_id" <;> cases t.find? (fun e => e.key = (f.ctx, n)) <;> simp [tblRemove]
  · simp

theorem compactTable_eq (h : List SFrame) :
    compactTable h = h.foldl (scanStep (fun e => hits e.key e.reg) regEntry) [] ∧ KeysNodup (compactTable h) :=
  foldl_eq_scan (I := KeysNodup) List.nodup_nil
    (fun _ f ht => scanStep_keys_nodup Entry.key (fun f e e' hw hk => by
      obtain ⟨_, hc, hx⟩ := regEntry_eq_some.mp hw
      simp [hits, hc, hk, hx]) ht f)
    (fun _ f ht => compactStep_eq ht f) h

theorem mem_compactTable {h : List SFrame} {k : Key} {r : SFrame} : ⟨k, r⟩ ∈ compactTable h ↔ Retained h k r := by
  rw [(compactTable_eq h).1, mem_scan]
  constructor
  · rintro ⟨pre, r', post, he, hw, hd⟩
    obtain ⟨rfl, hr⟩ := regEntry_eq_some.mp hw
    exact ⟨pre, post, he, hr, hd⟩
  · rintro ⟨pre, post, he, hr, hd⟩
    exact ⟨pre, r, post, he, regEntry_eq_some.mpr ⟨rfl, hr⟩, hd⟩

theorem mem_insertById {f g : SFrame} {l : List SFrame} : g ∈ insertById f l ↔ g = f ∨ g ∈ l := by
  induction l with
  | nil => simp [insertById]
  | cons x rest ih =>
    unfold insertById
    split
    · simp
    · rw [List.mem_cons, ih, List.mem_cons, or_left_comm]

theorem mem_sortById {g : SFrame} {l : List SFrame} : g ∈ sortById l ↔ g ∈ l := by
  induction l with
  | nil => simp [sortById]
  | cons x rest ih =>
    show g ∈ insertById x (sortById rest) ↔ _
    rw [mem_insertById, ih, List.mem_cons]

theorem insertById_sorted {f : SFrame} {l : List SFrame} (h : l.Pairwise (fun a b => a.id ≤ b.id)) :
    (insertById f l).Pairwise (fun a b => a.id ≤ b.id) := by
  induction l with
  | nil => simp [insertById]
  | cons x rest ih =>
    obtain ⟨hx, hrest⟩ := List.pairwise_cons.mp h
    unfold insertById
    split
    next hle => exact .cons (List.forall_mem_cons.2 ⟨hle, fun b hb => Nat.le_trans hle (hx b hb)⟩) h
    next hnle =>
      exact .cons (fun b hb => (mem_insertById.mp hb).elim (· ▸ Nat.le_of_not_le hnle) (hx b)) (ih hrest)

/-- C17: the retained registrations are started in id order -/
theorem sortById_sorted (l : List SFrame) : (sortById l).Pairwise (fun a b => a.id ≤ b.id) := by
  induction l with
  | nil => exact .nil
  | cons x rest ih => exact insertById_sorted ih

/-- C17: exactly the registrations nothing later in the history dropped are started again -/
theorem mem_compact {h : List SFrame} {r : SFrame} : r ∈ compact h ↔ ∃ k, Retained h k r := by
  unfold compact
  rw [mem_sortById, List.mem_map]
  constructor
  · rintro ⟨⟨k, _⟩, he, rfl⟩
    exact ⟨k, mem_compactTable.mp he⟩
  · rintro ⟨k, hr⟩
    exact ⟨⟨k, r⟩, mem_compactTable.mpr hr, rfl⟩

theorem retained_iff {pre post : List SFrame} {k : Key} {r : SFrame} (hnd : (pre ++ r :: post).Nodup) :
    Retained (pre ++ r :: post) k r ↔ regOf k r ∧ ∀ f ∈ post, hits k r f = false := by
  constructor
  · rintro ⟨pre', post', he, hr, ha⟩
    obtain ⟨_, rfl⟩ := split_unique hnd he
    exact ⟨hr, ha⟩
  · exact fun ⟨hr, ha⟩ => ⟨pre, post, rfl, hr, ha⟩

theorem not_retained {pre post : List SFrame} {k : Key} {r f : SFrame} (hnd : (pre ++ r :: post).Nodup)
    (hf : f ∈ post) (hh : hits k r f = true) : ¬ Retained (pre ++ r :: post) k r :=
  fun h => by rw [((retained_iff hnd).mp h).2 f hf] at hh; cases hh

theorem classify_topicOf (name : String) (suffix : List Char) (hs : '.' ∉ suffix) :
    classify (topicOf name suffix) = some (name, kindOf suffix) := by
  simp [classify, topicOf, String.toList_append, rsplitDot_append _ hs]

theorem classify_eq_some {topic name : String} {kd : Kind} (h : classify topic = some (name, kd)) :
    ∃ b, topic = topicOf name b ∧ kindOf b = kd ∧ '.' ∉ b := by
  unfold classify at h
  rcases hr : rsplitDot topic.toList with _ | ⟨a, b⟩ <;> rw [hr] at h <;> cases h
  obtain ⟨hs, hn⟩ := rsplitDot_eq_some hr
  exact ⟨b, by rw [topicOf, ← String.ofList_append, ← hs, String.ofList_toList], rfl, hn⟩

def Kind.suffix : Kind → List Char
  | .register => sRegister
  | .unregister => sUnregister
  | .unregistered => sUnregistered
  | .other => []

theorem kindOf_eq_iff {b : List Char} {kd : Kind} (hk : kd ≠ .other) : kindOf b = kd ↔ b = kd.suffix := by
  constructor
  · rintro rfl
    unfold kindOf at hk ⊢
    by_cases h1 : b = sRegister
    · rwa [if_pos h1]
    by_cases h2 : b = sUnregister
    · rwa [if_neg h1, if_pos h2]
    by_cases h3 : b = sUnregistered
    · rwa [if_neg h1, if_neg h2, if_pos h3]
    · rw [if_neg h1, if_neg h2, if_neg h3] at hk; exact absurd rfl hk
  · rintro rfl
    cases kd <;> first | rfl | exact absurd rfl hk

/-- the serve loop's split of a topic and `format!("{}.register", name)` speak about the same frames -/
theorem classify_eq_iff {topic name : String} {kd : Kind} (hk : kd ≠ .other) :
    classify topic = some (name, kd) ↔ topic = topicOf name kd.suffix := by
  constructor
  · intro h
    obtain ⟨b, ht, hb, _⟩ := classify_eq_some h
    rw [ht, (kindOf_eq_iff hk).mp hb]
  · rintro rfl
    rw [classify_topicOf _ _ (by cases kd <;> decide), (kindOf_eq_iff hk).mpr rfl]

theorem isRegTraffic_iff {cfg : HCfg} {f : SFrame} :
    isRegTraffic cfg f = true ↔
      classify f.topic = some (cfg.name, .register) ∨ classify f.topic = some (cfg.name, .unregister) := by
  rw [classify_eq_iff (by decide), classify_eq_iff (by decide)]
  simp [isRegTraffic, Kind.suffix]

variable {σ : Type}

/-- C17 (restart restores exactly the active handlers).  `h = pre ++ r :: post` is the stored
    stream when the server comes up again, `r` a `.register` of key `k` and `cfg` the handler made
    from it.  `inp` is everything the live instance was handed before the stop.  If
      * (cov) the instance was handed every later `.register` / `.unregister` of its key, and
      * (ann) a `<name>.unregistered` naming it is stored exactly when the instance has stopped
        (C16: each stop is announced once; quiescence: the announcement made it to the stream),
    then `r` is started again exactly when its instance was still running. -/
theorem restart_restores_active (cfg : HCfg) (eval : σ → SFrame → σ × EvalRes) (env : σ)
    (pre post inp : List SFrame) (r : SFrame) (k : Key)
    (hnd : (pre ++ r :: post).Nodup) (hr : regOf k r)
    (hname : cfg.name = k.2) (hctx : cfg.ctx = k.1) (hid : cfg.id = r.id)
    (later : ∀ f ∈ post, r.id < f.id)
    (cov : ∀ f ∈ post, f.ctx = k.1 → isRegTraffic cfg f = true → f ∈ inp)
    (ann : (∃ f ∈ post, classify f.topic = some (k.2, .unregistered) ∧ f.ctx = k.1 ∧
              metaGet f.mdata "handler_id" = some (idText r.id)) ↔
           (run cfg eval .running env inp).1 = .stopped) :
    r ∈ compact (pre ++ r :: post) ↔ (run cfg eval .running env inp).1 = .running := by
  rw [mem_compact]
  constructor
  · rintro ⟨k', h⟩
    obtain ⟨hr', _⟩ := (retained_iff hnd).mp h
    obtain rfl : k' = k := Prod.ext (hr'.2.symm.trans hr.2) (by simpa using hr'.1.symm.trans hr.1)
    cases hs : (run cfg eval .running env inp).1 with
    | running => rfl
    | stopped =>
      obtain ⟨f, hf, hc, hx, hm⟩ := ann.mpr hs
      exact absurd h (not_retained hnd hf (hits_iff.mpr ⟨hx, .inr (.inr ⟨hc, hm⟩)⟩))
  · intro hrun
    refine ⟨k, (retained_iff hnd).mpr ⟨hr, fun f hf => Bool.eq_false_iff.mpr fun hh => ?_⟩⟩
    obtain ⟨hfc, h⟩ := hits_iff.mp hh
    rw [← hname, ← or_assoc, ← isRegTraffic_iff] at h
    cases hrun.symm.trans <| h.elim (fun h => run_stopped_of_regtraffic (cov f hf hfc h) h (hid ▸ later f hf))
      fun ⟨hc, hm⟩ => ann.mp ⟨f, hf, hname ▸ hc, hfc, hm⟩

theorem laterTraffic_eq_none {cfg : HCfg} {stream : List SFrame} :
    laterTraffic cfg stream = none ↔
      ∀ f ∈ stream, f.ctx = cfg.ctx → cfg.id < f.id → isRegTraffic cfg f = false := by
  simp [laterTraffic]

theorem startHandler_eq_some {parse : SFrame → Except String (HCfg × Resume)} {name : String}
    {stream : List SFrame} {r : SFrame} {s' : List SFrame} {st : Started} :
    startHandler parse name stream r = (s', some st) ↔
      parse r = .ok (st.cfg, st.resume) ∧ (st.resume = .tail → laterTraffic st.cfg stream = none) ∧
      s' = stream ++ [registeredFrame st.cfg] ∧ st.subAt = stream.length := by
  unfold startHandler
  constructor
  · intro h
    rcases hp : parse r with e | ⟨cfg, resume⟩ <;> simp only [hp] at h
    · cases h
    · split at h <;> cases h
      next hl => exact ⟨rfl, ite_eq_right_iff.mp hl, rfl, rfl⟩
  · rintro ⟨hp, hl, rfl, hn⟩
    simp only [hp, ite_eq_right_iff.mpr hl, ← hn]

/-- C16: the announcement comes after the subscription: whatever is appended once
    `<name>.registered` is in the stream lies in the live part of the instance's subscription -/
theorem subscribed_before_announced {parse : SFrame → Except String (HCfg × Resume)} {name : String}
    {stream : List SFrame} {r : SFrame} {s' : List SFrame} {st : Started}
    (h : startHandler parse name stream r = (s', some st)) (later : List SFrame) :
    (s' ++ later).drop st.subAt = registeredFrame st.cfg :: later := by
  obtain ⟨_, _, rfl, hn⟩ := startHandler_eq_some.mp h
  simp [hn]

/-- C16: a tail handler that starts has no registration traffic of its name between its own
    `.register` and its subscription: whatever replaces or unregisters it comes live -/
theorem started_tail_not_superseded {parse : SFrame → Except String (HCfg × Resume)} {name : String}
    {stream : List SFrame} {r : SFrame} {s' : List SFrame} {st : Started}
    (h : startHandler parse name stream r = (s', some st)) (ht : st.resume = .tail) :
    ∀ f ∈ stream, f.ctx = st.cfg.ctx → st.cfg.id < f.id → isRegTraffic st.cfg f = false :=
  laterTraffic_eq_none.mp ((startHandler_eq_some.mp h).2.1 ht)

/-- a later `.register` / `.unregister` of its name and context is in a started instance's
    subscription, whether it was stored after the instance subscribed (`live`) or before (`pre`: a tail
    handler would not have started) -/
theorem started_mem_subscription {parse : SFrame → Except String (HCfg × Resume)} {name : String}
    {pre : List SFrame} {r : SFrame} {s' : List SFrame} {st : Started}
    (h : startHandler parse name pre r = (s', some st)) (thr : SFrame) {live : List SFrame} {f : SFrame}
    (hf : f ∈ live ∨ f ∈ pre) (hctx : f.ctx = st.cfg.ctx) (hreg : isRegTraffic st.cfg f = true)
    (hlater : st.cfg.id < f.id) (hres : ∀ x, st.resume = .after x → x < f.id) :
    f ∈ subscription st.cfg st.resume pre live thr :=
  mem_subscription_of thr hctx <| hf.imp id fun hp => ⟨hp, fun ht =>
    (nomatch (started_tail_not_superseded h ht f hp hctx hlater).symm.trans hreg), hres⟩

/-- C16/C17 (`cov` of `restart_restores_active`, discharged): a started instance is handed every
    later `.register` / `.unregister` of its name and context that is ever stored - whether it
    was stored before the instance subscribed (history; impossible for a tail handler, which
    would not have started) or after (live).  `pre` is the stream when it subscribed, `ext` what
    was appended afterwards. -/
theorem started_covers (parse : SFrame → Except String (HCfg × Resume)) (name : String)
    (pre : List SFrame) (r : SFrame) (s' : List SFrame) (st : Started)
    (h : startHandler parse name pre r = (s', some st)) (ext : List SFrame) (thr f : SFrame)
    (hf : f ∈ s' ++ ext) (hctx : f.ctx = st.cfg.ctx) (hreg : isRegTraffic st.cfg f = true)
    (hlater : st.cfg.id < f.id) (hres : ∀ x, st.resume = .after x → x < f.id) :
    f ∈ subscription st.cfg st.resume pre ((s' ++ ext).drop st.subAt) thr := by
  rw [subscribed_before_announced h ext]
  obtain ⟨_, _, rfl, _⟩ := startHandler_eq_some.mp h
  rw [List.append_assoc, List.mem_append] at hf
  exact started_mem_subscription h thr hf.symm hctx hreg hlater hres

/-- what `Handler::from_frame` guarantees about the configuration it builds: the handler's id,
    context and name are those of the `.register` frame -/
def ParseOk (parse : SFrame → Except String (HCfg × Resume)) : Prop :=
  ∀ r cfg res, parse r = .ok (cfg, res) →
    cfg.id = r.id ∧ cfg.ctx = r.ctx ∧ classify r.topic = some (cfg.name, .register)

end Xs.Serve
