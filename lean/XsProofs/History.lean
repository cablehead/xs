/-
  Operations and whole histories. Every operation keeps the invariant (`step_inv`), so every
  reachable state has it (`reachable_inv`); a step loses a stored frame only for a stated reason
  (`step_retention`); `mem_step_gcq` says what one operation can put on the gc queue (`Enqueues`),
  and the well-formedness of queued tasks is an induction over that (their justification, C08, too:
  XsProps/C08).
-/
import XsModel.Run
import XsProofs.Gc
namespace Xs
attribute [local irreducible] be unbe

/-- numeric well-formedness of the inputs of an operation: ids and context ids are 128-bit.
    (Nothing else is assumed of a history.) -/
def WfOp : Op → Prop
  | .append f id => id < idBound ∧ f.ctx < idBound
  | .importF f => f.id < idBound ∧ f.ctx < idBound
  | .remove id => id < idBound
  | _ => True

theorem step_append_of_rejected {s : State} {f : Frame} {id : Nat} (h : ∀ r, s.append f id ≠ .ok r) :
    s.step (.append f id) = s := by
  dsimp only [State.step]
  split
  · exact absurd ‹_› (h _)
  · rfl

theorem step_import_of_rejected {s : State} {f : Frame} (h : ∀ s', s.insertFrame f ≠ .ok s') :
    s.step (.importF f) = s := by
  dsimp only [State.step]
  split
  · exact absurd ‹_› (h _)
  · rfl

theorem step_inv {s : State} (h : Inv s) {op : Op} (w : WfOp op) : Inv (s.step op) := by
  cases op with
  | append f id =>
    dsimp only [State.step]
    split
    · exact append_inv h w.1 w.2 ‹_›
    · exact h
  | importF f =>
    dsimp only [State.step]
    split
    · exact insertFrame_inv h w.1 w.2 ‹_›
    · exact h
  | remove id => exact remove_inv h id
  | readSync c l n now | readHist c l n now => exact inv_of_parts h rfl rfl rfl rfl
  | gc =>
    dsimp only [State.step, State.gcStep]
    cases s.gcq with
    | nil => exact h
    | cons t q => exact applyTask_inv (h.with_gcq q) t
  | drain =>
    exact foldl_applyTask_inv (h.with_gcq []) _
  | reopen => exact reopen_inv h.k

/-- the reasons for which frame `g` may stop being stored at operation `op` from state `s` -/
def GoneBecause (s : State) (g : Frame) : Op → Prop
  | .append _ id => g.id = id
  | .importF f => g.id = f.id
  | .remove id => g.id = id
  | .gc => ∃ t q, s.gcq = t :: q ∧ EvictedBy s t g
  | .drain => ∃ pre t post, s.gcq = pre ++ t :: post ∧
      EvictedBy (pre.foldl State.applyTask { s with gcq := [] }) t g
  | _ => False

/-- C08, one step: a stored frame stops being stored only through an explicit remove, a
    write under its own id, or a gc task that names it / finds it outside the newest `keep` -/
theorem step_retention {s : State} (h : Inv s) (hq : GcWf s) {op : Op} (w : WfOp op) (g : Frame)
    (hg : g ∈ frames s) (hgone : g ∉ frames (s.step op)) : GoneBecause s g op := by
  cases op with
  | append f id =>
    refine Classical.not_not.1 fun hne => hgone ?_
    dsimp only [State.step]
    split
    · rename_i s' f' e
      cases (append_spec.1 e).2.2.1  -- `f' = stamped f id`, whose id is `id`
      rcases append_cases e with ⟨_, rfl⟩ | ⟨he, _⟩
      · exact hg
      · exact (mem_frames_append h w.1 e he g).2 (.inr ⟨hg, hne⟩)
    · exact hg
  | importF f =>
    refine Classical.not_not.1 fun hne => hgone ?_
    dsimp only [State.step]
    split
    · exact (mem_frames_insertFrame h w.1 ‹_› g).2 (.inr ⟨hg, hne⟩)
    · exact hg
  | remove id => exact Classical.not_not.1 fun hne => hgone ((mem_frames_remove h.k w g).2 ⟨hg, hne⟩)
  | readSync c l n now | readHist c l n now | reopen => exact hgone hg
  | gc =>
    dsimp only [State.step, State.gcStep] at hgone
    split at hgone
    · exact absurd hg hgone
    · rename_i t q hqq
      exact ⟨t, q, hqq, applyTask_gone (h.with_gcq q) (hq t (hqq ▸ List.mem_cons_self)) g hg hgone⟩
  | drain =>
    obtain ⟨pre, t, post, e, _, h2⟩ := foldl_applyTask_gone (h.with_gcq []) s.gcq hq g hg hgone
    exact ⟨pre, t, post, e, h2⟩

theorem append_gcq {s s' : State} {f0 f : Frame} {id : Nat} (e : s.append f0 id = .ok (s', f)) :
    s'.gcq = s.gcq ++ headTask f := by
  rcases append_cases e with ⟨he, rfl⟩ | ⟨_, _, rfl⟩
  · rw [headTask, he, List.append_nil]  -- an ephemeral frame carries no `head:k`
  · rfl

theorem insertFrame_gcq {s s' : State} {f : Frame} (e : s.insertFrame f = .ok s') :
    s'.gcq = s.gcq := by
  obtain ⟨_, _, rfl⟩ := insertFrame_ok e
  rfl

theorem remove_gcq (s : State) (id : Nat) : (s.remove id).gcq = s.gcq := by
  unfold State.remove
  cases s.get id with
  | none => rfl
  | some f => dsimp only; cases hasNul f.topic <;> rfl

theorem applyTask_gcq (s : State) (t : GCTask) : (s.applyTask t).gcq = s.gcq :=
  applyTask_rec (P := fun s' => s'.gcq = s.gcq) (fun s' id h => (remove_gcq s' id).trans h) rfl t

theorem foldl_applyTask_gcq (s : State) (ts : List GCTask) : (ts.foldl State.applyTask s).gcq = s.gcq :=
  foldl_applyTask_rec (P := fun s' => s'.gcq = s.gcq) (fun s' id h => (remove_gcq s' id).trans h) rfl ts

/-- the tasks an operation puts on the queue: a stored `head:k` append its check, a read a
    `Remove` for a frame it found expired; nothing else ever queues anything -/
inductive Enqueues (s : State) : Op → GCTask → Prop where
  | append {f0 f : Frame} {id k : Nat} {s' : State} : s.append f0 id = .ok (s', f) → f.ttl = some (.head k) →
      Enqueues s (.append f0 id) (.checkHead f.ctx f.topic k)
  | readSync {c l n : Option Nat} {now : Nat} {f : Frame} : f ∈ s.iterFrames c l → f.expired now = true →
      Enqueues s (.readSync c l n now) (.remove f.id)
  | readHist {c l n : Option Nat} {now : Nat} {f : Frame} : f ∈ s.iterFrames c l → f.expired now = true →
      Enqueues s (.readHist c l n now) (.remove f.id)

/-- the queue after a step: what was there (or a part of it) and what the step enqueued -/
theorem mem_step_gcq {s : State} {op : Op} {t : GCTask} (ht : t ∈ (s.step op).gcq) :
    t ∈ s.gcq ∨ Enqueues s op t := by
  cases op with
  | append f id =>
    simp only [State.step] at ht
    split at ht
    · rename_i s' f' e
      rw [append_gcq e] at ht
      refine (List.mem_append.1 ht).imp_right fun h1 => ?_
      unfold headTask at h1
      split at h1
      · cases List.mem_singleton.1 h1; exact .append e ‹_›
      · cases h1
    · exact .inl ht
  | importF f =>
    simp only [State.step] at ht
    split at ht
    · exact .inl (insertFrame_gcq ‹_› ▸ ht)
    · exact .inl ht
  | remove id => exact .inl (remove_gcq s id ▸ ht)
  | readSync c l n now =>
    refine (List.mem_append.1 ht).imp_right fun h1 => ?_
    obtain ⟨f, hf, rfl, he⟩ := mem_expiredTasks.1 ((readSyncGo_tasks ..).subset h1)
    exact .readSync hf he
  | readHist c l n now =>
    refine (List.mem_append.1 ht).imp_right fun h1 => ?_
    obtain ⟨f, hf, rfl, he⟩ := mem_expiredTasks.1 ((readHistGo_tasks ..).subset h1)
    exact .readHist hf he
  | gc =>
    simp only [State.step, State.gcStep] at ht
    split at ht
    · exact .inl ht
    · rw [applyTask_gcq] at ht
      exact .inl (‹s.gcq = _› ▸ List.mem_cons_of_mem _ ht)
  | drain => simp [State.step, State.drain, foldl_applyTask_gcq] at ht
  | reopen => cases ht

theorem gcWf_step {s : State} (h : Inv s) (hq : GcWf s) {op : Op} (w : WfOp op) :
    GcWf (s.step op) := by
  intro t ht
  rcases mem_step_gcq ht with h1 | h1
  · exact hq t h1
  · cases h1 with
    | append e hk =>
      obtain ⟨hn, _, rfl, _⟩ := append_spec.1 e
      exact ⟨w.2, hasNul_eq_false_iff.1 hn⟩
    | readSync hf _ | readHist hf _ => exact (h.k.wfFrame (mem_frames_of_mem_iterFrames h.k hf)).id_lt

theorem run_inv_gcWf {s : State} (h : Inv s) (hq : GcWf s) (ops : List Op)
    (w : ∀ op ∈ ops, WfOp op) : Inv (s.run ops) ∧ GcWf (s.run ops) :=
  List.foldlRecOn (motive := fun s => Inv s ∧ GcWf s) ops _ ⟨h, hq⟩
    fun _ h op hop => ⟨step_inv h.1 (w op hop), gcWf_step h.1 h.2 (w op hop)⟩

theorem reachable_inv (ops : List Op) (w : ∀ op ∈ ops, WfOp op) : Inv (State.init.run ops) :=
  (run_inv_gcWf inv_init nofun ops w).1

theorem reachable_gcWf (ops : List Op) (w : ∀ op ∈ ops, WfOp op) : GcWf (State.init.run ops) :=
  (run_inv_gcWf inv_init nofun ops w).2

theorem run_snoc (s : State) (ops : List Op) (op : Op) :
    s.run (ops ++ [op]) = (s.run ops).step op := by
  simp [State.run, List.foldl_append]

/-- What in a history justifies a queued task.
    `Remove(id)`: a read at clock `now` found the stored frame `id` with its `time:N` elapsed.
    `CheckHeadTTL{c, t, k}`: an accepted append stored a `head:k` frame in context `c`, topic `t`. -/
def TaskJustified (ops : List Op) : GCTask → Prop
  | .remove id => ∃ pre post, ∃ c l : Option Nat, ∃ n : Option Nat, ∃ now : Nat,
      (ops = pre ++ Op.readSync c l n now :: post ∨ ops = pre ++ Op.readHist c l n now :: post) ∧
      ∃ f ∈ frames (State.init.run pre), f.id = id ∧ f.expired now = true
  | .checkHead c t k => ∃ pre post f0 id s' f,
      ops = pre ++ Op.append f0 id :: post ∧ (State.init.run pre).append f0 id = .ok (s', f) ∧
      f.ctx = c ∧ f.topic = t ∧ f.ttl = some (.head k)

/-- `wait_for_gc`: a property of the stored frames that a queued task establishes, and that
    removing frames does not undo, holds once the queue is drained -/
theorem drain_establishes {P : State → Prop} {s : State} (h : Inv s) {t : GCTask} (ht : t ∈ s.gcq)
    (hest : ∀ {s}, Inv s → P (s.applyTask t))
    (hmono : ∀ {s s'}, (frames s').Sublist (frames s) → P s → P s') : P s.drain := by
  -- up to `t` the invariant holds, `t` establishes `P`, and what follows only removes
  obtain ⟨pre, post, e⟩ := List.append_of_mem ht
  rw [State.drain, e, List.foldl_append]
  exact hmono (foldl_applyTask_sublist _ post) (hest (foldl_applyTask_inv (h.with_gcq []) pre))

end Xs
