/-
  Generators: a lifecycle is a duplex lifecycle and a `.stop`; the start-up scan is a keyed scan
  (`XsProofs/Keyed.lean`) in which the last `.spawn` / `.spawn.error` of a key wins (`GLast`).
-/
import XsModel.Generator
import XsProofs.Keyed
namespace Xs.Serve

/-- every frame a generator writes carries the spawn's id and lives in the spawn's context -/
theorem gframe_source (t : GTask) (suffix : List Char) (c : Option String) :
    metaGet (gframe t suffix c).mdata "source_id" = some (idText t.id) ∧ (gframe t suffix c).ctx = t.ctx :=
  ⟨by simp [gframe, gmeta, metaGet], rfl⟩

theorem duplexLifecycle_contents (t : GTask) (ss : List String) :
    (duplexLifecycle t ss).filterMap (·.content) = ss ∧
    ∀ f ∈ duplexLifecycle t ss, metaGet f.mdata "source_id" = some (idText t.id) ∧ f.ctx = t.ctx := by
  constructor
  · simp [duplexLifecycle, gframe, List.filterMap_map, Function.comp_def]
  · simp only [duplexLifecycle, List.mem_cons, List.mem_map]
    rintro f (rfl | ⟨s, _, rfl⟩) <;> exact gframe_source ..

theorem lifecycle_eq (t : GTask) (ss : List String) :
    lifecycle t ss = duplexLifecycle t ss ++ [gframe t sStop none] := rfl

variable (duplexOf parses : SFrame → Bool)

/-- C18/C06: a `.stop` whose (context, name) has no generator in the table starts nothing -/
theorem foreign_stop_ignored (tbl : List GTask) (f : SFrame) (name : String)
    (hc : gclassify f.topic = some (name, .stop)) (hh : gtblHas tbl (f.ctx, name) = none) :
    genStep duplexOf parses tbl f = (tbl, none) := by
  simp [genStep, hc, hh]

def gkeyOf (f : SFrame) : Option (Key × Bool) :=
  match gclassify f.topic with
  | some (name, .spawn) => some ((f.ctx, name), true)
  | some (name, .spawnError) => some ((f.ctx, name), false)
  | _ => none

/-- the start-up scan of the generator loop: a spawn / spawn.error drops the entry of its key and
    writes its own -/
theorem gcompactStep_eq (t : List GEntry) (f : SFrame) :
    gcompactStep t f = scanStep (fun e f => (gkeyOf f).any (·.1 = e.key)) (fun f => (gkeyOf f).map fun kb => ⟨kb.1, f, kb.2⟩) t f := by
  have : gcompactStep t f = match gkeyOf f with
      | some (k, b) => t.filter (fun e => e.key ≠ k) ++ [⟨k, f, b⟩]
      | none => t := by
    unfold gcompactStep gkeyOf
    rcases gclassify f.topic with _ | ⟨n, _ | _ | _ | _⟩ <;> rfl
  rw [this]
  cases hk : gkeyOf f with
  | none => rw [scanStep_eq_self (by simp [hk]) (by simp [hk])]
  | some kb => simp [scanStep, hk, eq_comm]

/-- `r` is a spawn / spawn.error entry of key `k` and nothing after it is -/
def GLast (h : List SFrame) (k : Key) (r : SFrame) (b : Bool) : Prop :=
  ∃ pre post, h = pre ++ r :: post ∧ gkeyOf r = some (k, b) ∧ ∀ f ∈ post, ∀ b', gkeyOf f ≠ some (k, b')

theorem mem_foldl_gcompactStep {h : List SFrame} {k : Key} {r : SFrame} {b : Bool} :
    (⟨k, r, b⟩ : GEntry) ∈ h.foldl gcompactStep [] ↔ GLast h k r b := by
  rw [show gcompactStep = scanStep _ _ from funext fun t => funext (gcompactStep_eq t), mem_scan]
  constructor
  · rintro ⟨pre, r', post, he, hw, hd⟩
    obtain ⟨kb, hk, ⟨⟩⟩ := Option.map_eq_some_iff.mp hw
    exact ⟨pre, post, he, hk, fun f hf b' hb => by simpa [hb] using hd f hf⟩
  · rintro ⟨pre, post, he, hk, hd⟩
    refine ⟨pre, r, post, he, by rw [hk]; rfl, fun f hf => (Option.any_eq_false ..).mpr fun kb hkb => decide_eq_false ?_⟩
    rintro rfl
    exact hd f hf kb.2 hkb

/-- C17/C06 (generators): the key a spawn / spawn.error acts on carries the frame's own context, so
    frames of other contexts leave a key alone -/
theorem gkeyOf_ctx (f : SFrame) (k : Key) (b : Bool) (h : gkeyOf f = some (k, b)) : k.1 = f.ctx := by
  unfold gkeyOf at h
  split at h <;> cases h <;> rfl

end Xs.Serve
