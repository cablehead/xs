/-
  What the collector does: `Remove` and `CheckHeadTTL` tasks, and `wait_for_gc`. The effect of a
  task on the stored frames is a filter equation; what it may remove, and why, follows from that.
-/
import XsProofs.Reads
namespace Xs

attribute [local irreducible] be unbe

theorem frames_foldl_remove {s : State} (h : Inv s) (ids : List Nat) (hids : ∀ i ∈ ids, i < idBound) :
    frames (ids.foldl State.remove s) = (frames s).filter fun g => g.id ∉ ids := by
  induction ids generalizing s with
  | nil => exact (List.filter_eq_self.2 fun _ _ => by simp).symm
  | cons a l ih =>
    rw [List.foldl_cons, ih (remove_inv h a) fun i hi => hids i (List.mem_cons_of_mem _ hi),
      frames_remove h.k (hids a List.mem_cons_self), List.filter_filter]
    exact List.filter_congr fun g _ => by
      rw [← Bool.decide_and, decide_eq_decide, List.mem_cons, not_or, and_comm]

theorem mem_frames_foldl_remove {s : State} (h : Inv s) (ids : List Nat)
    (hids : ∀ i ∈ ids, i < idBound) (g : Frame) :
    g ∈ frames (ids.foldl State.remove s) ↔ g ∈ frames s ∧ g.id ∉ ids := by
  simp [frames_foldl_remove h ids hids]

theorem topicFrames_of_frames_filter {s s' : State} {p : Frame → Bool} (e : frames s' = (frames s).filter p)
    (c : Nat) (t : List Nat) : topicFrames s' c t = (topicFrames s c t).filter p := by
  rw [topicFrames, e, List.filter_filter, topicFrames, List.filter_filter]
  exact List.filter_congr fun g _ => Bool.and_comm ..

theorem topicFrames_sorted {s : State} (h : InvK s) (c : Nat) (t : List Nat) :
    (topicFrames s c t).Pairwise (fun a b => a.id < b.id) :=
  (frames_sorted h).filter _

theorem topicFrames_nodup {s : State} (h : InvK s) (c : Nat) (t : List Nat) : (topicFrames s c t).Nodup :=
  (topicFrames_sorted h c t).imp fun hlt e => Nat.ne_of_lt hlt (congrArg _ e)

/-- the ids a `CheckHeadTTL` task picks in state `s` -/
def victimIds (s : State) (c : Nat) (t : List Nat) (keep : Nat) : List Nat :=
  ((Part.scanPrefix (topicPrefix c t) s.idxT).reverse.drop keep).map (fun kv => idOfTopicKey kv.1)

theorem applyTask_checkHead (s : State) (c : Nat) (t : List Nat) (keep : Nat) :
    s.applyTask (.checkHead c t keep) = (victimIds s c t keep).foldl State.remove s := rfl

/-- the frames a `CheckHeadTTL{ctx, topic, keep}` task evicts: all but the `keep` newest of
    that context and topic -/
def victims (s : State) (c : Nat) (t : List Nat) (keep : Nat) : List Frame :=
  (topicFrames s c t).take ((topicFrames s c t).length - keep)

theorem victimIds_eq {s : State} (h : InvK s) {t : List Nat} {c : Nat} (ht : NulFree t)
    (hc : c < idBound) (keep : Nat) :
    victimIds s c t keep = ((victims s c t keep).map (·.id)).reverse := by
  rw [victimIds, List.map_drop, List.map_reverse, topicScan_ids h ht hc, List.drop_reverse]
  simp [victims, List.map_take]

theorem mem_victims_frames {s : State} {c : Nat} {t : List Nat} {keep : Nat} {g : Frame}
    (hg : g ∈ victims s c t keep) : g ∈ frames s :=
  (List.mem_filter.1 (List.mem_of_mem_take hg)).1

theorem victimIds_lt {s : State} (h : InvK s) {t : List Nat} {c : Nat} (ht : NulFree t) (hc : c < idBound)
    (keep : Nat) : ∀ i ∈ victimIds s c t keep, i < idBound := by
  rw [victimIds_eq h ht hc keep]
  simp only [List.mem_reverse, List.mem_map]
  rintro _ ⟨g, hg, rfl⟩
  exact (h.wfFrame (mem_victims_frames hg)).id_lt

/-- C08/C09 core: effect of one `CheckHeadTTL` task on the stored frames -/
theorem checkHead_frames {s : State} (h : Inv s) {t : List Nat} {c : Nat} (ht : NulFree t)
    (hc : c < idBound) (keep : Nat) :
    frames (s.applyTask (.checkHead c t keep)) = (frames s).filter fun g => g ∉ victims s c t keep := by
  rw [applyTask_checkHead, frames_foldl_remove h _ (victimIds_lt h.k ht hc keep), victimIds_eq h.k ht hc]
  refine List.filter_congr fun g hg => ?_
  simp only [List.mem_reverse, List.mem_map, decide_eq_decide]
  exact not_congr ⟨fun ⟨g', hg', e⟩ => h.k.frame_unique (mem_victims_frames hg') hg e ▸ hg', fun hm => ⟨g, hm, rfl⟩⟩

theorem mem_checkHead_frames {s : State} (h : Inv s) {t : List Nat} {c : Nat} (ht : NulFree t)
    (hc : c < idBound) (keep : Nat) (g : Frame) :
    g ∈ frames (s.applyTask (.checkHead c t keep)) ↔ g ∈ frames s ∧ g ∉ victims s c t keep := by
  simp [checkHead_frames h ht hc]

/-- C09: after the task the topic holds exactly its `keep` newest frames -/
theorem checkHead_topic {s : State} (h : Inv s) {t : List Nat} {c : Nat} (ht : NulFree t)
    (hc : c < idBound) (keep : Nat) :
    topicFrames (s.applyTask (.checkHead c t keep)) c t =
      (topicFrames s c t).drop ((topicFrames s c t).length - keep) :=
  (topicFrames_of_frames_filter (checkHead_frames h ht hc keep) c t).trans
    (filter_not_mem_take (topicFrames_nodup h.k c t) _)

theorem checkHead_bound {s : State} (h : Inv s) {t : List Nat} {c : Nat} (ht : NulFree t)
    (hc : c < idBound) (keep : Nat) :
    (topicFrames (s.applyTask (.checkHead c t keep)) c t).length ≤ keep := by
  rw [checkHead_topic h ht hc keep, List.length_drop, Nat.sub_sub_eq_min]
  exact Nat.min_le_right ..

theorem remove_sublist (s : State) (id : Nat) : (frames (s.remove id)).Sublist (frames s) := by
  unfold State.remove frames
  cases s.get id with
  | none => exact .refl _
  | some f =>
    dsimp only
    cases hasNul f.topic
    · exact (Part.erase_sublist _ _).map _
    · exact .refl _

theorem foldl_applyTask_sublist (s : State) (ts : List GCTask) :
    (frames (ts.foldl State.applyTask s)).Sublist (frames s) :=
  foldl_applyTask_rec (P := fun s' => (frames s').Sublist (frames s)) (fun s' id h => (remove_sublist s' id).trans h)
    (.refl _) ts

/-- numeric well-formedness of a queued task (what `append` / the reads enqueue) -/
def WfTask : GCTask → Prop
  | .remove id => id < idBound
  | .checkHead c tp _ => c < idBound ∧ NulFree tp

def GcWf (s : State) : Prop := ∀ t ∈ s.gcq, WfTask t

theorem foldl_applyTask_subset {s : State} (h : Inv s) (ts : List GCTask)
    (wts : ∀ t ∈ ts, WfTask t) (g : Frame) (hg : g ∈ frames (ts.foldl State.applyTask s)) :
    g ∈ frames s := (foldl_applyTask_sublist s ts).subset hg

/-- how a task justifies the disappearance of frame `g` from state `s`:
    `Remove(id)` names it; `CheckHeadTTL` finds it in that context and topic outside the
    `keep` newest -/
def EvictedBy (s : State) (t : GCTask) (g : Frame) : Prop :=
  match t with
  | .remove id => g.id = id
  | .checkHead c tp keep =>
    g.ctx = c ∧ g.topic = tp ∧ g ∈ topicFrames s c tp ∧
      g ∉ (topicFrames s c tp).drop ((topicFrames s c tp).length - keep)

/-- the two phrasings of what a `CheckHeadTTL` task evicts: `EvictedBy` says "of the topic and not
    among its `keep` last", `victims` says "among all but its `keep` last" -/
theorem evictedBy_checkHead_iff {s : State} (h : InvK s) {c : Nat} {t : List Nat} {keep : Nat} {g : Frame} :
    EvictedBy s (.checkHead c t keep) g ↔ g ∈ victims s c t keep := by
  rw [EvictedBy, ← filter_not_mem_take (topicFrames_nodup h c t), List.mem_filter, victims]
  simp only [decide_eq_true_eq, not_and, Classical.not_not]
  refine ⟨fun ⟨_, _, hL, hd⟩ => hd hL, fun hm => ?_⟩
  have hL := List.mem_of_mem_take hm
  have hp := (List.mem_filter.1 hL).2
  simp only [Bool.and_eq_true, decide_eq_true_eq] at hp
  exact ⟨hp.1, hp.2, hL, fun _ => hm⟩

theorem applyTask_gone {s : State} (h : Inv s) {t : GCTask} (wt : WfTask t) (g : Frame)
    (hg : g ∈ frames s) (hgone : g ∉ frames (s.applyTask t)) : EvictedBy s t g := by
  cases t with
  | remove id => exact Classical.not_not.1 fun e => hgone ((mem_frames_remove h.k wt g).2 ⟨hg, e⟩)
  | checkHead c tp keep =>
    exact (evictedBy_checkHead_iff h.k).2 (Classical.not_not.1 fun hm =>
      hgone ((mem_checkHead_frames h wt.2 wt.1 keep g).2 ⟨hg, hm⟩))

theorem foldl_applyTask_gone {s : State} (h : Inv s) (ts : List GCTask) (wts : ∀ t ∈ ts, WfTask t)
    (g : Frame) (hg : g ∈ frames s) (hgone : g ∉ frames (ts.foldl State.applyTask s)) :
    ∃ pre t post, ts = pre ++ t :: post ∧ g ∈ frames (pre.foldl State.applyTask s) ∧
      EvictedBy (pre.foldl State.applyTask s) t g := by
  obtain ⟨pre, t, post, rfl, h1, h2⟩ := foldl_first_lost State.applyTask (g ∈ frames ·) hg hgone
  exact ⟨pre, t, post, rfl, h1, applyTask_gone (foldl_applyTask_inv h pre) (wts t (by simp)) g h1 h2⟩

end Xs
