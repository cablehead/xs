/-
  The store invariant: the three partitions are in lock-step and the context
  registry is a function of the stored frames.
  Every write of the store is made of two primitive updates, `delFrame` (drop a stored frame) and
  `addFrame` (write a frame under an unused id); the invariant is proved for these two only.
-/
import XsModel.Store
import XsProofs.Bytes
import XsProofs.Part
namespace Xs
open Part

/- the encoding is used only through the lemmas of XsProofs/Bytes.lean; keeping the unifier from
   unfolding `be` (into `Nat` division on variables) keeps elaboration fast, here and in the
   modules below that repeat the attribute -/
attribute [local irreducible] be unbe

/-- the stored frames, in key (= id) order -/
def frames (s : State) : List Frame := s.stream.map (·.2)

structure WfFrame (f : Frame) : Prop where
  id_lt : f.id < idBound
  ctx_lt : f.ctx < idBound
  nul : NulFree f.topic
  /-- its JSON reads back: nothing stored can poison later reads (C12) -/
  dec : f.decodable = true

theorem hasNul_eq_false_iff {t : List Nat} : hasNul t = false ↔ NulFree t := by
  simp only [hasNul, NulFree, List.contains_eq_mem, decide_eq_false_iff_not]
  exact ⟨fun h b hb e => h (e ▸ hb), fun h h0 => h 0 h0 rfl⟩

/-- partitions in lock-step -/
structure InvK (s : State) : Prop where
  sS : Sorted s.stream
  sT : Sorted s.idxT
  sC : Sorted s.idxC
  wf : ∀ kv ∈ s.stream, kv.1 = idKey kv.2.id ∧ WfFrame kv.2
  tKeys : ∀ k, (k, ()) ∈ s.idxT ↔ ∃ f ∈ frames s, k = topicKey f.ctx f.topic f.id
  cKeys : ∀ k, (k, ()) ∈ s.idxC ↔ ∃ f ∈ frames s, k = ctxKey f.ctx f.id

/-- the registry is the zero context plus the stored zero-context `xs.context` frames -/
structure CtxOk (s : State) : Prop where
  nodup : s.contexts.Nodup
  iff : ∀ c, c ∈ s.contexts ↔ c = 0 ∨ ∃ f ∈ frames s, f.id = c ∧ f.isReg = true

structure Inv (s : State) : Prop where
  k : InvK s
  c : CtxOk s

theorem mem_frames {s : State} {f : Frame} : f ∈ frames s ↔ ∃ k, (k, f) ∈ s.stream := by
  simp only [frames, List.mem_map, Prod.exists, exists_eq_right]

theorem InvK.mem_frames_iff {s : State} (h : InvK s) {f : Frame} :
    f ∈ frames s ↔ (idKey f.id, f) ∈ s.stream :=
  mem_frames.trans ⟨fun ⟨k, hk⟩ => (show k = idKey f.id from (h.wf _ hk).1) ▸ hk, fun hk => ⟨_, hk⟩⟩

theorem InvK.wfFrame {s : State} (h : InvK s) {f : Frame} (hf : f ∈ frames s) : WfFrame f := by
  obtain ⟨k, hk⟩ := mem_frames.1 hf
  exact (h.wf _ hk).2

theorem InvK.frame_unique {s : State} (h : InvK s) {f g : Frame} (hf : f ∈ frames s)
    (hg : g ∈ frames s) (e : f.id = g.id) : f = g :=
  h.sS.unique (e ▸ h.mem_frames_iff.1 hf) (h.mem_frames_iff.1 hg)

/-- lookup by an id that may be out of range: `idKey` wraps, so the keys agree and no more can be
    said; this is the form `remove` needs, which takes any id. For a 128-bit id use `get_spec`. -/
theorem InvK.get_eq_some_iff {s : State} (h : InvK s) {i : Nat} {f : Frame} :
    s.get i = some f ↔ f ∈ frames s ∧ idKey f.id = idKey i := by
  rw [State.get, Part.get_eq_some_iff h.sS]
  exact ⟨fun hm => ⟨mem_frames.2 ⟨_, hm⟩, (h.wf _ hm).1.symm⟩, fun ⟨hf, e⟩ => e ▸ h.mem_frames_iff.1 hf⟩

theorem InvK.get_of_mem {s : State} (h : InvK s) {f : Frame} (hf : f ∈ frames s) :
    s.get f.id = some f := h.get_eq_some_iff.2 ⟨hf, rfl⟩

theorem get_spec {s : State} (h : InvK s) {i : Nat} (hi : i < idBound) (f : Frame) :
    s.get i = some f ↔ f ∈ frames s ∧ f.id = i := by
  rw [h.get_eq_some_iff]
  exact and_congr_right fun hf => ⟨idKey_inj (h.wfFrame hf).id_lt hi, congrArg _⟩

theorem InvK.get_eq_none_iff {s : State} (h : InvK s) {i : Nat} (hi : i < idBound) :
    s.get i = none ↔ ∀ f ∈ frames s, f.id ≠ i := by
  simp only [Option.eq_none_iff_forall_ne_some, ne_eq, get_spec h hi, not_and]

theorem inv_init : Inv State.init := by
  refine ⟨⟨sorted_nil, sorted_nil, sorted_nil, ?_, ?_, ?_⟩, ⟨?_, ?_⟩⟩ <;>
    simp [State.init, frames]

/-- the invariant looks at the partitions and the registry only -/
theorem inv_of_parts {s s' : State} (h : Inv s) (e1 : s'.stream = s.stream)
    (e2 : s'.idxT = s.idxT) (e3 : s'.idxC = s.idxC) (e4 : s'.contexts = s.contexts) : Inv s' := by
  cases s; cases s'; cases e1; cases e2; cases e3; cases e4
  exact ⟨{ h.k with }, { h.c with }⟩

theorem Inv.with_gcq {s : State} (h : Inv s) (q : List GCTask) : Inv { s with gcq := q } :=
  inv_of_parts h rfl rfl rfl rfl

/-- an index partition after its key for `o` is erased, `κ` being the key layout -/
theorem idx_erase {κ : Frame → Key} {p : Part Unit} {F F' : List Frame} {o : Frame} (hs : Sorted p)
    (hp : ∀ k, (k, ()) ∈ p ↔ ∃ g ∈ F, k = κ g) (hF : ∀ g, g ∈ F' ↔ g ∈ F ∧ g.id ≠ o.id)
    (hκ : ∀ g ∈ F, κ g = κ o ↔ g.id = o.id) (k : Key) :
    (k, ()) ∈ Part.erase (κ o) p ↔ ∃ g ∈ F', k = κ g := by
  rw [Part.mem_erase hs, hp]
  constructor
  · rintro ⟨⟨g, hg, rfl⟩, hne⟩
    exact ⟨g, (hF g).2 ⟨hg, mt (hκ g hg).2 hne⟩, rfl⟩
  · rintro ⟨g, hg, rfl⟩
    obtain ⟨hg, hne⟩ := (hF g).1 hg
    exact ⟨⟨g, hg, rfl⟩, mt (hκ g hg).1 hne⟩

theorem idx_insert {κ : Frame → Key} {p : Part Unit} {F F' : List Frame} {f : Frame} (hs : Sorted p)
    (hp : ∀ k, (k, ()) ∈ p ↔ ∃ g ∈ F, k = κ g) (hF : ∀ g, g ∈ F' ↔ g = f ∨ g ∈ F) (k : Key) :
    (k, ()) ∈ Part.insert (κ f) () p ↔ ∃ g ∈ F', k = κ g := by
  simp only [Part.mem_insert hs, hp, hF, Prod.mk.injEq, and_true, or_and_right, exists_or, exists_eq_left]
  exact ⟨Or.imp_right And.left, fun h => (Decidable.em (k = κ f)).imp_right fun ne => ⟨h.resolve_left ne, ne⟩⟩

theorem mem_ctxInsert {c a : Nat} {l : List Nat} : c ∈ ctxInsert a l ↔ c = a ∨ c ∈ l := by
  unfold ctxInsert
  split
  · exact ⟨.inr, fun h => h.elim (· ▸ ‹_›) id⟩
  · simp

theorem nodup_ctxInsert {a : Nat} {l : List Nat} (h : l.Nodup) : (ctxInsert a l).Nodup := by
  unfold ctxInsert
  split
  · exact h
  · exact List.nodup_cons.2 ⟨‹_›, h⟩

/-- drop a stored frame: its three keys and, for a registration, its registry entry -/
def delFrame (s : State) (o : Frame) : State :=
  { s with
    stream := Part.erase (idKey o.id) s.stream
    idxT := Part.erase (topicKey o.ctx o.topic o.id) s.idxT
    idxC := Part.erase (ctxKey o.ctx o.id) s.idxC
    contexts := if o.isReg && o.id ≠ 0 then s.contexts.erase o.id else s.contexts }

/-- write a frame (under an id that is not in use) -/
def addFrame (s : State) (f : Frame) : State :=
  { s with
    stream := Part.insert (idKey f.id) f s.stream
    idxT := Part.insert (topicKey f.ctx f.topic f.id) () s.idxT
    idxC := Part.insert (ctxKey f.ctx f.id) () s.idxC
    contexts := if f.isReg then ctxInsert f.id s.contexts else s.contexts }

theorem frames_delFrame {s : State} (h : InvK s) {o : Frame} (ho : o.id < idBound) :
    frames (delFrame s o) = (frames s).filter fun g => g.id ≠ o.id := by
  simp only [frames, delFrame, erase_eq_filter h.sS, List.filter_map]
  refine congrArg _ (List.filter_congr fun kv hkv => ?_)
  obtain ⟨e, w⟩ := h.wf kv hkv
  simp only [Function.comp, e]
  exact decide_eq_decide.2 (not_congr ⟨idKey_inj w.id_lt ho, congrArg idKey⟩)

theorem mem_frames_addFrame {s : State} (h : InvK s) {f : Frame} (hf : f.id < idBound)
    (fresh : ∀ g ∈ frames s, g.id ≠ f.id) (g : Frame) :
    g ∈ frames (addFrame s f) ↔ g = f ∨ g ∈ frames s := by
  rw [mem_frames]
  simp only [addFrame, Part.mem_insert h.sS, Prod.mk.injEq]
  constructor
  · rintro ⟨k, ⟨_, e⟩ | ⟨hk, _⟩⟩; exact .inl e; exact .inr (mem_frames.2 ⟨k, hk⟩)
  · rintro (rfl | hg)
    · exact ⟨_, .inl ⟨rfl, rfl⟩⟩
    · exact ⟨_, .inr ⟨h.mem_frames_iff.1 hg, fun e => fresh g hg (idKey_inj (h.wfFrame hg).id_lt hf e)⟩⟩

theorem delFrame_inv {s : State} (h : Inv s) {o : Frame} (ho : o ∈ frames s) : Inv (delFrame s o) := by
  have wo := h.k.wfFrame ho
  have hF : ∀ g, g ∈ frames (delFrame s o) ↔ g ∈ frames s ∧ g.id ≠ o.id := fun g => by
    simp [frames_delFrame h.k wo.id_lt]
  refine ⟨⟨sorted_erase h.k.sS, sorted_erase h.k.sT, sorted_erase h.k.sC, ?_,
    idx_erase h.k.sT h.k.tKeys hF ?_, idx_erase h.k.sC h.k.cKeys hF ?_⟩, ?_, ?_⟩
  · exact fun kv hkv => h.k.wf _ ((Part.mem_erase h.k.sS _).1 hkv).1
  · exact fun g hg => have wg := h.k.wfFrame hg
      ⟨fun e => (topicKey_inj wg.ctx_lt wo.ctx_lt wg.id_lt wo.id_lt wg.nul wo.nul e).2.2,
        fun e => h.k.frame_unique hg ho e ▸ rfl⟩
  · exact fun g hg => have wg := h.k.wfFrame hg
      ⟨fun e => (ctxKey_inj wg.ctx_lt wo.ctx_lt wg.id_lt wo.id_lt e).2, fun e => h.k.frame_unique hg ho e ▸ rfl⟩
  · unfold delFrame
    split
    · exact h.c.nodup.erase _
    · exact h.c.nodup
  · -- `o` is the only stored frame with its id, and the zero context is registered by itself
    intro c
    simp only [hF]
    unfold delFrame
    by_cases hr : (o.isReg && decide (o.id ≠ 0)) = true
    · rw [if_pos hr, h.c.nodup.mem_erase_iff, h.c.iff]
      simp only [Bool.and_eq_true, decide_eq_true_eq] at hr
      constructor
      · rintro ⟨hne, rfl | ⟨g, hg, rfl, hr'⟩⟩
        · exact .inl rfl
        · exact .inr ⟨g, ⟨hg, hne⟩, rfl, hr'⟩
      · rintro (rfl | ⟨g, ⟨hg, hne⟩, rfl, hr'⟩)
        · exact ⟨fun e => hr.2 e.symm, .inl rfl⟩
        · exact ⟨hne, .inr ⟨g, hg, rfl, hr'⟩⟩
    · rw [if_neg hr, h.c.iff]
      constructor
      · rintro (rfl | ⟨g, hg, rfl, hr'⟩)
        · exact .inl rfl
        · by_cases e : g.id = o.id
          · cases h.k.frame_unique hg ho e
            exact .inl (by simpa [hr'] using hr)
          · exact .inr ⟨g, ⟨hg, e⟩, rfl, hr'⟩
      · exact Or.imp_right fun ⟨g, ⟨hg, _⟩, e, hr'⟩ => ⟨g, hg, e, hr'⟩

theorem addFrame_inv {s : State} (h : Inv s) {f : Frame} (wf : WfFrame f)
    (fresh : ∀ g ∈ frames s, g.id ≠ f.id) : Inv (addFrame s f) := by
  have hF := mem_frames_addFrame h.k wf.id_lt fresh
  refine ⟨⟨sorted_insert h.k.sS, sorted_insert h.k.sT, sorted_insert h.k.sC, ?_,
    idx_insert h.k.sT h.k.tKeys hF, idx_insert h.k.sC h.k.cKeys hF⟩, ?_, ?_⟩
  · intro kv hkv
    rcases (Part.mem_insert h.k.sS _).1 hkv with rfl | ⟨hm, _⟩
    · exact ⟨rfl, wf⟩
    · exact h.k.wf _ hm
  · unfold addFrame
    split
    · exact nodup_ctxInsert h.c.nodup
    · exact h.c.nodup
  · intro c
    have hm : c ∈ (addFrame s f).contexts ↔ (f.id = c ∧ f.isReg = true) ∨ c ∈ s.contexts := by
      unfold addFrame
      split <;> simp [mem_ctxInsert, eq_comm, *]
    simp only [hm, h.c.iff, hF, or_and_right, exists_or, exists_eq_left]
    exact or_left_comm

end Xs
