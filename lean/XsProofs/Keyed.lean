/-
  Tables keyed by a function `key` and kept as lists, as the serve loops' models keep theirs:
  `filter (key ≠ k) ++ [e]` is `HashMap::insert`, `find? (key = k)` the lookup.  The laws of lookup after
  insert, and start-up scans as folds of "drop some entries, then maybe write one" (`scanStep`): what
  such a fold retains is said once, in `mem_scan`.
-/
import XsProofs.ListAux
namespace Xs

section lookup
variable {ε κ : Type} [DecidableEq κ] (key : ε → κ)

theorem find?_filter_key_ne (t : List ε) {k k' : κ} (hne : k' ≠ k) :
    (t.filter (fun e => key e ≠ k)).find? (fun e => key e = k') = t.find? (fun e => key e = k') := by
  rw [List.find?_filter]
  congr 1; funext e
  by_cases h : key e = k' <;> simp [h, hne]

theorem find?_filter_key_self (t : List ε) (k : κ) :
    (t.filter (fun e => key e ≠ k)).find? (fun e => key e = k) = none := by
  simp [List.find?_eq_none]

theorem find?_insert_same (t : List ε) {k : κ} {e : ε} (he : key e = k) :
    (t.filter (fun e => key e ≠ k) ++ [e]).find? (fun e => key e = k) = some e := by
  rw [List.find?_append, find?_filter_key_self]; simp [he]

theorem find?_insert_other (t : List ε) {k k' : κ} {e : ε} (he : key e = k) (hne : k' ≠ k) :
    (t.filter (fun e => key e ≠ k) ++ [e]).find? (fun e => key e = k') = t.find? (fun e => key e = k') := by
  rw [List.find?_append, find?_filter_key_ne key t hne]; simp [he, Ne.symm hne]

theorem find?_key_of_mem {t : List ε} (hn : (t.map key).Nodup) {e : ε} (he : e ∈ t) :
    t.find? (fun x => key x = key e) = some e := by
  induction t with
  | nil => cases he
  | cons x rest ih =>
    rw [List.map_cons, List.nodup_cons] at hn
    rcases List.mem_cons.mp he with rfl | he'
    · simp
    · rw [List.find?_cons_of_neg (by simpa using fun h : key x = key e => hn.1 (h ▸ List.mem_map_of_mem he')),
        ih hn.2 he']

/-- with unique keys, dropping the entries of key `k` that satisfy `p` is looking `k` up and removing
    its entry if that satisfies `p`: how a `HashMap` user drops conditionally -/
theorem filter_key_and {t : List ε} (hn : (t.map key).Nodup) (k : κ) (p : ε → Bool) :
    t.filter (fun e => !(decide (key e = k) && p e)) =
      match t.find? (fun e => key e = k) with
      | some e0 => if p e0 then t.filter (fun e => key e ≠ k) else t
      | none => t := by
  cases h : t.find? (fun e => key e = k) with
  | none =>
    simp only [List.find?_eq_none, decide_eq_true_eq] at h
    exact List.filter_eq_self.mpr fun e he => by simp [h e he]
  | some e0 =>
    -- every entry of key `k` is `e0`, so `p e` may be read as `p e0` and taken out of the filter
    have : ∀ e ∈ t, (!(decide (key e = k) && p e)) = !(decide (key e = k) && p e0) := fun e he => by
      by_cases hke : key e = k
      · subst hke
        cases (find?_key_of_mem key hn he).symm.trans h
        rfl
      · simp [hke]
    rw [List.filter_congr this]
    cases hp : p e0 <;> simp [hp]

end lookup

variable {ε φ κ : Type}

def scanStep (drops : ε → φ → Bool) (writes : φ → Option ε) (t : List ε) (f : φ) : List ε :=
  t.filter (fun e => !drops e f) ++ (writes f).toList

theorem scanStep_eq_self {drops : ε → φ → Bool} {writes : φ → Option ε} {t : List ε} {f : φ}
    (hd : ∀ e ∈ t, drops e f = false) (hw : writes f = none) : scanStep drops writes t f = t := by
  rw [scanStep, hw, Option.toList_none, List.append_nil, List.filter_eq_self]
  exact fun e he => by rw [hd e he]; rfl

theorem mem_scan (drops : ε → φ → Bool) (writes : φ → Option ε) (h : List φ) (e : ε) :
    e ∈ h.foldl (scanStep drops writes) [] ↔
      ∃ pre r post, h = pre ++ r :: post ∧ writes r = some e ∧ ∀ f ∈ post, drops e f = false := by
  induction h using list_snoc_induction with
  | hnil => simp
  | hsnoc l f ih =>
    rw [List.foldl_append, List.foldl_cons, List.foldl_nil, scanStep, List.mem_append, List.mem_filter, ih,
      Option.mem_toList, Bool.not_eq_true']
    constructor
    · rintro (⟨⟨pre, r, post, rfl, hw, hd⟩, hf⟩ | hw)
      · exact ⟨pre, r, post ++ [f], List.append_assoc .., hw,
          List.forall_mem_append.2 ⟨hd, List.forall_mem_singleton.2 hf⟩⟩
      · exact ⟨l, f, [], rfl, hw, nofun⟩
    · rintro ⟨pre, r, post, he, hw, hd⟩
      induction post using list_snoc_induction with
      | hnil =>
        obtain ⟨rfl, rfl⟩ := List.append_singleton_inj.mp he
        exact .inr hw
      | hsnoc post g _ =>
        obtain ⟨rfl, rfl⟩ := List.append_singleton_inj.mp (he.trans (List.append_assoc pre (r :: post) [g]).symm)
        obtain ⟨hd, hf⟩ := List.forall_mem_append.1 hd
        exact .inl ⟨⟨pre, r, post, rfl, hw, hd⟩, hf _ (List.mem_singleton_self _)⟩

theorem scanStep_keys_nodup (key : ε → κ) {drops : ε → φ → Bool} {writes : φ → Option ε}
    (hw : ∀ f e e', writes f = some e → key e' = key e → drops e' f = true) {t : List ε}
    (ht : (t.map key).Nodup) (f : φ) : ((scanStep drops writes t f).map key).Nodup := by
  rw [scanStep, List.map_append, List.nodup_append]
  refine ⟨(List.filter_sublist.map _).nodup ht, by cases writes f <;> simp, fun a ha b hb hk => ?_⟩
  obtain ⟨e', he', rfl⟩ := List.mem_map.mp ha
  obtain ⟨e, he, rfl⟩ := List.mem_map.mp hb
  simp [hw f e e' (by simpa using he) hk] at he'

/-- a fold whose step is a `scanStep` on the tables that occur (those satisfying an invariant the
    scan keeps) is that scan -/
theorem foldl_eq_scan {drops : ε → φ → Bool} {writes : φ → Option ε} {step : List ε → φ → List ε}
    {I : List ε → Prop} (h0 : I []) (hI : ∀ t f, I t → I (scanStep drops writes t f))
    (hs : ∀ t f, I t → step t f = scanStep drops writes t f) (h : List φ) :
    h.foldl step [] = h.foldl (scanStep drops writes) [] ∧ I (h.foldl step []) := by
  induction h using list_snoc_induction with
  | hnil => exact ⟨rfl, h0⟩
  | hsnoc l f ih =>
    simp only [List.foldl_append, List.foldl_cons, List.foldl_nil]
    rw [hs _ f ih.2, ← ih.1]
    exact ⟨rfl, hI _ f ih.2⟩

end Xs
