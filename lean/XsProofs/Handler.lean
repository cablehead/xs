/-
  One handler instance.  `step` from `running` is stated once as a relation (`HStep`: one constructor per
  outcome - pass by, replaced, failed, unstorable, answered - with its guard); the facts about a single
  step are by cases on `HStep.of_step`.  `run` is `step` folded: it composes (`run_append`), `stopped` is
  absorbing (`stopped_inert`), and a run that stops has a first stopping frame (`run_first_stop`,
  `run_cases`); what holds from every state is shown by induction over the frames.  A subscription is `subPre` (history and marker) followed by the live frames of the
  context (`subscription_eq_pre`).
-/
import Std.Data.String.ToNat
import XsModel.Handler
import XsProofs.Keyed
namespace Xs.Serve

theorem metaGet_metaSet_same (l : List (String × String)) (k v : String) :
    metaGet (some (metaSet l k v)) k = some v :=
  congrArg (Option.map Prod.snd) (find?_insert_same Prod.fst l (e := (k, v)) rfl)

theorem metaGet_metaSet_other {l : List (String × String)} {k k' v : String} (hne : k' ≠ k) :
    metaGet (some (metaSet l k v)) k' = metaGet (some l) k' :=
  congrArg (Option.map Prod.snd) (find?_insert_other Prod.fst l (e := (k, v)) rfl hne)

/-- two keys written one after the other are both there afterwards, whatever the map held: the ids
    are stamped after the user's meta (`stamp`, and `cstamp` of the command loop) -/
theorem metaGet_metaSet_two {l : List (String × String)} {k1 k2 v1 v2 : String} (hne : k1 ≠ k2) :
    metaGet (some (metaSet (metaSet l k1 v1) k2 v2)) k1 = some v1 ∧
    metaGet (some (metaSet (metaSet l k1 v1) k2 v2)) k2 = some v2 :=
  ⟨(metaGet_metaSet_other hne).trans (metaGet_metaSet_same _ _ _), metaGet_metaSet_same _ _ _⟩

theorem stamp_ids (m : Option (List (String × String))) (hid fid : Nat) :
    metaGet (stamp m hid fid) "handler_id" = some (idText hid) ∧
    metaGet (stamp m hid fid) "frame_id" = some (idText fid) :=
  metaGet_metaSet_two (by simp)

def Stamped (cfg : HCfg) (trigger : SFrame) (o : SFrame) : Prop :=
  metaGet o.mdata "handler_id" = some (idText cfg.id) ∧
  metaGet o.mdata "frame_id" = some (idText trigger.id) ∧ o.ctx = cfg.ctx

theorem stamped_of_stamp {cfg : HCfg} {t o : SFrame} {m : Option (List (String × String))}
    (hm : o.mdata = stamp m cfg.id t.id) (hc : o.ctx = cfg.ctx) : Stamped cfg t o := by
  rw [Stamped, hm]
  exact and_assoc.mp ⟨stamp_ids .., hc⟩

theorem unregistered_stamped (cfg : HCfg) (t : SFrame) (e : Option String) :
    Stamped cfg t (unregistered cfg t e) := by
  simp [Stamped, unregistered, metaGet]

variable {σ : Type}

theorem step_stopped (cfg : HCfg) (eval : σ → SFrame → σ × EvalRes) (env : σ) (f : SFrame) :
    step cfg eval .stopped env f = (.stopped, env, [], false) := rfl

/-- `step cfg eval .running env f = r`, one constructor per outcome: its guard, and the result -/
inductive HStep (cfg : HCfg) (eval : σ → SFrame → σ × EvalRes) (env : σ) (f : SFrame) :
    HState × σ × List SFrame × Bool → Prop
  /-- registration traffic that preceded the instance, or its own output -/
  | skip : isInvoke cfg f = false → (isRegTraffic cfg f = true → f.id ≤ cfg.id) →
      HStep cfg eval env f (.running, env, [], false)
  | replaced : isRegTraffic cfg f = true → cfg.id < f.id →
      HStep cfg eval env f (.stopped, env, [unregistered cfg f none], false)
  | failed (env' : σ) (msg : String) : isInvoke cfg f = true → eval env f = (env', .error msg) →
      HStep cfg eval env f (.stopped, env', [unregistered cfg f (some msg)], true)
  | unstorable (env' : σ) (appends : List OutReq) (ret : Ret) : isInvoke cfg f = true →
      eval env f = (env', .ok appends ret) →
      (appends.map (emit cfg f) ++ retFrames cfg f ret).all storable = false →
      HStep cfg eval env f (.stopped, env', [unregistered cfg f (some "unstorable output")], true)
  | answered (env' : σ) (appends : List OutReq) (ret : Ret) : isInvoke cfg f = true →
      eval env f = (env', .ok appends ret) →
      (appends.map (emit cfg f) ++ retFrames cfg f ret).all storable = true →
      HStep cfg eval env f (.running, env', appends.map (emit cfg f) ++ retFrames cfg f ret, true)

theorem HStep.of_step {cfg : HCfg} {eval : σ → SFrame → σ × EvalRes} {env : σ} {f : SFrame}
    {r : HState × σ × List SFrame × Bool} (e : step cfg eval .running env f = r) : HStep cfg eval env f r := by
  subst e
  simp only [step, dispatch]
  cases hr : isRegTraffic cfg f
  · cases ho : isOwn cfg f
    · have hi : isInvoke cfg f = true := by simp [isInvoke, hr, ho]
      rcases he : eval env f with ⟨env', ⟨appends, ret⟩ | msg⟩
      · cases hs : (appends.map (emit cfg f) ++ retFrames cfg f ret).all storable
        · simpa [hs] using .unstorable env' appends ret hi he hs
        · simpa [hs] using .answered env' appends ret hi he hs
      · simpa using .failed env' msg hi he
    · simpa using .skip (by simp [isInvoke, ho]) (by simp [hr])
  · by_cases hl : f.id ≤ cfg.id
    · simpa [hl] using .skip (by simp [isInvoke, hr]) fun _ => hl
    · simpa [hl] using .replaced hr (Nat.lt_of_not_le hl)

theorem replaced_or_unregistered_stops {cfg : HCfg} {eval : σ → SFrame → σ × EvalRes} {f : SFrame} (env : σ)
    (hr : isRegTraffic cfg f = true) (hlater : cfg.id < f.id) :
    step cfg eval .running env f = (.stopped, env, [unregistered cfg f none], false) := by
  generalize e : step cfg eval .running env f = r
  cases HStep.of_step e with
  | skip _ h => exact absurd (h hr) (Nat.not_le_of_lt hlater)
  | replaced => rfl
  | failed _ _ hi | unstorable _ _ _ hi | answered _ _ _ hi => simp [isInvoke, hr] at hi

theorem step_invoked_eq (cfg : HCfg) (eval : σ → SFrame → σ × EvalRes) (env : σ) (f : SFrame) :
    (step cfg eval .running env f).2.2.2 = isInvoke cfg f := by
  generalize e : step cfg eval .running env f = r
  cases HStep.of_step e with
  | skip hi | failed _ _ hi | unstorable _ _ _ hi | answered _ _ _ hi => exact hi.symm
  | replaced hr => simp [isInvoke, hr]

theorem step_stops {cfg : HCfg} {eval : σ → SFrame → σ × EvalRes} {env : σ} {f : SFrame}
    (h : (step cfg eval .running env f).1 = .stopped) :
    ∃ e, (step cfg eval .running env f).2.2.1 = [unregistered cfg f e] := by
  generalize e : step cfg eval .running env f = r at h ⊢
  cases HStep.of_step e with
  | skip | answered => cases h
  | replaced | failed | unstorable => exact ⟨_, rfl⟩

theorem step_runs {cfg : HCfg} {eval : σ → SFrame → σ × EvalRes} {st : HState} {env : σ} {f : SFrame}
    (h : (step cfg eval st env f).1 = .running) :
    st = .running ∧ (isRegTraffic cfg f = true → f.id ≤ cfg.id) ∧
    ((step cfg eval st env f).2.2.1 = [] ∨ ∃ env' appends ret, eval env f = (env', .ok appends ret) ∧
      (step cfg eval st env f).2.2.1 = appends.map (emit cfg f) ++ retFrames cfg f ret) := by
  cases st with
  | stopped => cases h
  | running =>
    generalize e : step cfg eval .running env f = r at h ⊢
    cases HStep.of_step e with
    | skip _ hr => exact ⟨rfl, hr, .inl rfl⟩
    | answered env' a ret hi he => exact ⟨rfl, fun hr => by simp [isInvoke, hr] at hi, .inr ⟨env', a, ret, he, rfl⟩⟩
    | _ => cases h

/-- C15/C06: whatever one step emits is stamped with the handler id and the id of the frame
    that triggered it and lands in the handler's context — whatever `--context` / `--meta`
    the script asked for -/
theorem step_outputs_stamped {cfg : HCfg} {eval : σ → SFrame → σ × EvalRes} {st : HState} {env : σ} {f o : SFrame}
    (ho : o ∈ (step cfg eval st env f).2.2.1) : Stamped cfg f o := by
  cases st with
  | stopped => cases ho
  | running =>
    generalize e : step cfg eval .running env f = r at ho
    cases HStep.of_step e with
    | skip => cases ho
    | replaced | failed | unstorable => exact List.mem_singleton.mp ho ▸ unregistered_stamped ..
    | answered _ _ ret =>
      rcases List.mem_append.mp ho with ho | ho
      · obtain ⟨q, _, rfl⟩ := List.mem_map.mp ho
        exact stamped_of_stamp rfl rfl
      · cases ret with
        | nothing => cases ho
        | value j => exact List.mem_singleton.mp ho ▸ stamped_of_stamp rfl rfl

/-- C16: `stopped` is absorbing -/
theorem stopped_inert (cfg : HCfg) (eval : σ → SFrame → σ × EvalRes) (env : σ) (l : List SFrame) :
    run cfg eval .stopped env l = (.stopped, env, [], []) := by
  induction l with
  | nil => rfl
  | cons f r ih => simp [run, step_stopped, ih]

theorem run_append (cfg : HCfg) (eval : σ → SFrame → σ × EvalRes) (st : HState) (env : σ) (l1 l2 : List SFrame) :
    run cfg eval st env (l1 ++ l2) =
      (let r1 := run cfg eval st env l1
       let r2 := run cfg eval r1.1 r1.2.1 l2
       (r2.1, r2.2.1, r1.2.2.1 ++ r2.2.2.1, r1.2.2.2 ++ r2.2.2.2)) := by
  induction l1 generalizing st env with
  | nil => rfl
  | cons a t ih => simp [run, ih]

theorem invocations_sublist (cfg : HCfg) (eval : σ → SFrame → σ × EvalRes) (st : HState) (env : σ) (l : List SFrame) :
    ((run cfg eval st env l).2.2.2.map (·.2)).Sublist l := by
  induction l generalizing st env with
  | nil => simp [run]
  | cons a t ih =>
    simp only [run, List.map_append]
    cases (step cfg eval st env a).2.2.2
    · exact (ih _ _).cons _
    · exact (ih _ _).cons_cons _

theorem outputs_isOwn {cfg : HCfg} {eval : σ → SFrame → σ × EvalRes} {st : HState} {env : σ} {l : List SFrame} {o : SFrame}
    (ho : o ∈ (run cfg eval st env l).2.2.1) : isOwn cfg o = true := by
  induction l generalizing st env with
  | nil => cases ho
  | cons a t ih =>
    simp only [run, List.mem_append] at ho
    rcases ho with ho | ho
    · simp [isOwn, (step_outputs_stamped ho).1]
    · exact ih ho

theorem run_first_stop (cfg : HCfg) (eval : σ → SFrame → σ × EvalRes) (env : σ) (l : List SFrame) :
    (run cfg eval .running env l).1 = .running ∨
    ∃ p f q, l = p ++ f :: q ∧ (run cfg eval .running env p).1 = .running ∧
      (step cfg eval .running (run cfg eval .running env p).2.1 f).1 = .stopped := by
  induction l generalizing env with
  | nil => exact .inl rfl
  | cons a t ih =>
    cases h1 : (step cfg eval .running env a).1 with
    | running =>
      rcases ih (step cfg eval .running env a).2.1 with h | ⟨p, f, q, rfl, hr, hs⟩
      · exact .inl (by simp only [run, h1, h])
      · exact .inr ⟨a :: p, f, q, rfl, by simp only [run, h1, hr], by simp only [run, h1, hs]⟩
    | stopped => exact .inr ⟨[], a, t, rfl, rfl, h1⟩

/-- a run either stays running or stops at a first frame `f`: the stop announcement for `f` is the last
    output, and `f` is the last invocation if it was one (a failing call is, a replacing `.register` is not) -/
theorem run_cases (cfg : HCfg) (eval : σ → SFrame → σ × EvalRes) (env : σ) (l : List SFrame) :
    (run cfg eval .running env l).1 = .running ∨
    ∃ p f q e, l = p ++ f :: q ∧ (run cfg eval .running env p).1 = .running ∧
      (run cfg eval .running env l).1 = .stopped ∧
      (run cfg eval .running env l).2.2.1 = (run cfg eval .running env p).2.2.1 ++ [unregistered cfg f e] ∧
      (run cfg eval .running env l).2.2.2.map (·.2) =
        (run cfg eval .running env p).2.2.2.map (·.2) ++ [f].filter (isInvoke cfg) := by
  rcases run_first_stop cfg eval env l with h | ⟨p, f, q, rfl, hr, hs⟩
  · exact .inl h
  · obtain ⟨e, he⟩ := step_stops hs
    refine .inr ⟨p, f, q, e, rfl, hr, ?_⟩
    simp only [run_append, hr, run, hs, stopped_inert, he, step_invoked_eq, List.append_nil, List.map_append,
      List.filter_cons, List.filter_nil]
    cases isInvoke cfg f <;> exact ⟨trivial, trivial, rfl⟩

/-- while it runs, the closure is run for exactly the frames that are neither registration traffic
    of its name nor its own output, and everything emitted was returned by a successful call -/
theorem run_running {cfg : HCfg} {eval : σ → SFrame → σ × EvalRes} {env : σ} {l : List SFrame}
    (h : (run cfg eval .running env l).1 = .running) :
    (run cfg eval .running env l).2.2.2.map (·.2) = l.filter (isInvoke cfg) ∧
    ∀ o ∈ (run cfg eval .running env l).2.2.1, ∃ env f env' appends ret,
      eval env f = (env', .ok appends ret) ∧ o ∈ appends.map (emit cfg f) ++ retFrames cfg f ret := by
  induction l generalizing env with
  | nil => exact ⟨rfl, fun _ ho => nomatch ho⟩
  | cons a t ih =>
    cases h1 : (step cfg eval .running env a).1 with
    | stopped => simp [run, h1, stopped_inert] at h
    | running =>
      simp only [run, h1] at h ⊢
      obtain ⟨ihi, iho⟩ := ih h
      refine ⟨?_, fun o ho => ?_⟩
      · rw [List.map_append, ihi, step_invoked_eq, List.filter_cons]
        cases isInvoke cfg a <;> rfl
      · rcases List.mem_append.mp ho with ho | ho
        · rcases (step_runs h1).2.2 with e | ⟨env', ap, ret, he, e⟩ <;> rw [e] at ho
          · cases ho
          · exact ⟨env, a, env', ap, ret, he, ho⟩
        · exact iho o ho

theorem run_stopped_of_regtraffic {cfg : HCfg} {eval : σ → SFrame → σ × EvalRes} {st : HState} {env : σ} {l : List SFrame}
    {f : SFrame} (hf : f ∈ l) (hr : isRegTraffic cfg f = true) (hlater : cfg.id < f.id) :
    (run cfg eval st env l).1 = .stopped := by
  induction l generalizing st env with
  | nil => cases hf
  | cons a t ih =>
    cases st with
    | stopped => simp [stopped_inert]
    | running =>
      rcases List.mem_cons.mp hf with rfl | hf'
      · simp only [run, replaced_or_unregistered_stops env hr hlater, stopped_inert]
      · simp only [run]; exact ih hf'

/-- what a subscription starts with: the history part and the marker (nothing for tail) -/
def subPre (cfg : HCfg) (resume : Resume) (hist : List SFrame) (thr : SFrame) : List SFrame :=
  match resume with
  | .tail => []
  | .head => hist.filter (fun f => f.ctx = cfg.ctx) ++ [thr]
  | .after id => (hist.filter (fun f => f.ctx = cfg.ctx)).filter (fun f => id < f.id) ++ [thr]

theorem subscription_eq_pre (cfg : HCfg) (resume : Resume) (hist live : List SFrame) (thr : SFrame) :
    subscription cfg resume hist live thr = subPre cfg resume hist thr ++ live.filter (fun f => f.ctx = cfg.ctx) := by
  cases resume <;> simp [subscription, subPre]

theorem mem_subPre {cfg : HCfg} {resume : Resume} {hist : List SFrame} {thr f : SFrame} :
    f ∈ subPre cfg resume hist thr ↔ resume ≠ .tail ∧
      (f = thr ∨ (f ∈ hist ∧ f.ctx = cfg.ctx ∧ ∀ a, resume = .after a → a < f.id)) := by
  cases resume <;> simp [subPre, List.mem_filter, -List.filter_filter, and_assoc, or_comm]

theorem mem_subscription_of {cfg : HCfg} {resume : Resume} {hist live : List SFrame} {f : SFrame} (thr : SFrame)
    (hc : f.ctx = cfg.ctx)
    (h : f ∈ live ∨ (f ∈ hist ∧ resume ≠ .tail ∧ ∀ a, resume = .after a → a < f.id)) :
    f ∈ subscription cfg resume hist live thr := by
  rw [subscription_eq_pre, List.mem_append]
  rcases h with h | ⟨h, ht, ha⟩
  · exact .inr (List.mem_filter.mpr ⟨h, by simpa using hc⟩)
  · exact .inl (mem_subPre.mpr ⟨ht, .inr ⟨h, hc, ha⟩⟩)

theorem tail_sees_no_history (cfg : HCfg) (hist live : List SFrame) (thr : SFrame) :
    subscription cfg .tail hist live thr = live.filter (fun f => f.ctx = cfg.ctx) := rfl

theorem subscription_sublist (cfg : HCfg) (resume : Resume) (hist live : List SFrame) (thr : SFrame) :
    ((subscription cfg resume hist live thr).filter (fun f => f ≠ thr)).Sublist (hist ++ live) := by
  rw [subscription_eq_pre, List.filter_append]
  refine List.Sublist.append ?_ (List.filter_sublist.trans List.filter_sublist)
  cases resume <;> simp [subPre]

theorem idText_inj {a b : Nat} (h : idText a = idText b) : a = b :=
  Nat.repr_inj.mp ((String.append_right_inj "id:").mp h)

theorem outputs_separate_by_stamp (cfg1 cfg2 : HCfg) (eval1 eval2 : σ → SFrame → σ × EvalRes)
    (st1 st2 : HState) (env1 env2 : σ) (l1 l2 m : List SFrame) (hne : cfg1.id ≠ cfg2.id)
    (h : Xs.Interleave (run cfg1 eval1 st1 env1 l1).2.2.1 (run cfg2 eval2 st2 env2 l2).2.2.1 m) :
    m.filter (fun o => metaGet o.mdata "handler_id" = some (idText cfg1.id)) = (run cfg1 eval1 st1 env1 l1).2.2.1 := by
  refine Xs.interleave_filter _ h (fun o ho => by simpa [isOwn] using outputs_isOwn ho) fun o ho => ?_
  have := outputs_isOwn ho
  simp only [isOwn, decide_eq_true_eq] at this
  simpa [this] using fun e => hne (idText_inj e).symm

end Xs.Serve
