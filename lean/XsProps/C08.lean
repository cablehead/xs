/-
  C08  Nothing disappears before its retention policy allows.
-/
import XsProps.Common
import XsProofs.GcRace
namespace Xs.C08

/-- One step of any history: a stored frame stops being stored only because
    (append / import) a write reused its own id — a replacement, not a disappearance —,
    (remove) it was explicitly removed, or (gc / drain) a queued task evicted it:
    `Remove(id)` naming it, or `CheckHeadTTL{c,t,k}` finding it in context `c`, topic `t`,
    outside the `k` newest frames of that topic. Reads and restarts remove nothing. -/
theorem retention_step (ops : List Op) (w : WfOps ops) (op : Op) (wo : WfOp op) (g : Frame)
    (hg : g ∈ frames (after ops)) (hgone : g ∉ frames ((after ops).step op)) :
    GoneBecause (after ops) g op :=
  step_retention (after_inv w) (reachable_gcWf ops w) wo g hg hgone

/-- … and every task the collector ever holds is justified by the history:
    `Remove(id)` was queued by a read that found the stored frame `id` with its own `time:N`
    elapsed at that read's clock; `CheckHeadTTL{c,t,k}` by an accepted append of a `head:k`
    frame to context `c`, topic `t`. -/
theorem queued_tasks_justified (ops : List Op) (w : WfOps ops) :
    ∀ t ∈ (after ops).gcq, TaskJustified ops t := by
  intro t ht
  -- `t` is not queued in the empty store: some operation of the history put it there
  obtain ⟨pre, op, post, rfl, h0, h1⟩ := foldl_first_lost State.step (t ∉ ·.gcq) (s := State.init) (l := ops)
    List.not_mem_nil (not_not_intro ht)
  have hI := reachable_inv pre fun o ho => w o (List.mem_append_left _ ho)
  rcases mem_step_gcq (Classical.not_not.1 h1) with h | h
  · exact absurd h h0
  · cases h with
    | append e hk => exact ⟨pre, post, _, _, _, _, rfl, e, rfl, rfl, hk⟩
    | readSync hf he =>
      exact ⟨pre, post, _, _, _, _, .inl rfl, _, mem_frames_of_mem_iterFrames hI.k hf, rfl, he⟩
    | readHist hf he =>
      exact ⟨pre, post, _, _, _, _, .inr rfl, _, mem_frames_of_mem_iterFrames hI.k hf, rfl, he⟩

/-- garbage collection for one topic never touches a frame of another topic — even one whose
    name shares a prefix — or of another context -/
theorem gc_other_topic_untouched (ops : List Op) (w : WfOps ops) (c : Nat) (t : List Nat) (k : Nat)
    (hc : c < idBound) (ht : NulFree t) (g : Frame) (hg : g ∈ frames (after ops))
    (hne : ¬ (g.ctx = c ∧ g.topic = t)) :
    g ∈ frames ((after ops).applyTask (.checkHead c t k)) := by
  refine (mem_checkHead_frames (after_inv w) ht hc k g).2 ⟨hg, fun hm => hne ?_⟩
  simpa using (List.mem_filter.1 (List.mem_of_mem_take hm)).2

/-- a frame a head task evicts is outside the `k` newest of its topic and context -/
theorem gc_evicts_only_beyond_keep (ops : List Op) (w : WfOps ops) (c : Nat) (t : List Nat) (k : Nat)
    (hc : c < idBound) (ht : NulFree t) (g : Frame) (hg : g ∈ frames (after ops))
    (hgone : g ∉ frames ((after ops).applyTask (.checkHead c t k))) :
    g.ctx = c ∧ g.topic = t ∧ g ∈ topicFrames (after ops) c t ∧
      g ∉ (topicFrames (after ops) c t).drop ((topicFrames (after ops) c t).length - k) :=
  applyTask_gone (after_inv w) (t := .checkHead c t k) ⟨hc, ht⟩ g hg hgone

/-- expiry is exactly "id timestamp + N ≤ now" (saturating at u64::MAX): a frame is never
    treated as expired before its `time:N` has elapsed -/
theorem expired_iff (f : Frame) (now : Nat) :
    f.expired now = true ↔ ∃ ms, f.ttl = some (.time ms) ∧ min (tsOf f.id + ms) u64Max ≤ now := by
  unfold Frame.expired isExpired
  split
  · rename_i ms h; simp [h]
  · rename_i h
    exact ⟨nofun, fun ⟨ms, e, _⟩ => absurd e (h ms)⟩

/-- a `forever` (or ttl-less) frame in a topic that never sees a head TTL is never lost to the
    collector: no justified task can name it -/
theorem forever_never_expires (f : Frame) (now : Nat) (h : f.ttl = some .forever ∨ f.ttl = none) :
    f.expired now = false := by
  unfold Frame.expired
  rcases h with h | h <;> simp [h]

/-- explicit removals racing the collector, any interleaving: the collector picks its victims in
    one scan and removes them one by one while other threads remove frames explicitly.  `R1` are
    the removals that land before the scan - all of frames outside the `k` newest of the topic
    (`OldIn`) -, `mix` is any sequence made of the collector's own removals and the later
    explicit ones `R2`.  What is stored at the end is what the sequential history "collector,
    then every removal" leaves: nothing beyond the explicitly removed frames and the frames
    outside the `k` newest is lost, wherever the removals fall. -/
theorem removals_racing_the_collector (ops : List Op) (w : WfOps ops) (c : Nat) (t : List Nat) (k : Nat)
    (hc : c < idBound) (ht : NulFree t) (R1 R2 mix : List Nat) (hR1 : ∀ x ∈ R1, x < idBound)
    (hR2 : ∀ x ∈ R2, x < idBound) (hold : ∀ x ∈ R1, OldIn (after ops) c t k x)
    (hmix : ∀ i, i ∈ mix ↔ i ∈ victimIds (R1.foldl State.remove (after ops)) c t k ∨ i ∈ R2) (g : Frame) :
    g ∈ frames (mix.foldl State.remove (R1.foldl State.remove (after ops))) ↔
      g ∈ frames ((R1 ++ R2).foldl State.remove ((after ops).applyTask (.checkHead c t k))) :=
  removals_race_collector (after_inv w) ht hc k R1 R2 mix hR1 hR2 hold hmix g

/-- … in particular the `k` newest frames of the topic survive the race unless they are removed
    explicitly -/
theorem newest_survive_the_race (ops : List Op) (w : WfOps ops) (c : Nat) (t : List Nat) (k : Nat)
    (hc : c < idBound) (ht : NulFree t) (R1 R2 mix : List Nat) (hR1 : ∀ x ∈ R1, x < idBound)
    (hR2 : ∀ x ∈ R2, x < idBound) (hold : ∀ x ∈ R1, OldIn (after ops) c t k x)
    (hmix : ∀ i, i ∈ mix ↔ i ∈ victimIds (R1.foldl State.remove (after ops)) c t k ∨ i ∈ R2) (g : Frame)
    (hg : g ∈ topicFrames (after ops) c t) (hnew : newerCount (topicFrames (after ops) c t) g < k)
    (hn1 : g.id ∉ R1) (hn2 : g.id ∉ R2) :
    g ∈ frames (mix.foldl State.remove (R1.foldl State.remove (after ops))) := by
  rw [removals_racing_the_collector ops w c t k hc ht R1 R2 mix hR1 hR2 hold hmix g,
    mem_frames_foldl_remove (applyTask_inv (after_inv w) _) (R1 ++ R2)
      fun i hi => (List.mem_append.1 hi).elim (hR1 i) (hR2 i),
    mem_checkHead_frames (after_inv w) ht hc, victims, mem_take_iff_rank (topicFrames_sorted (after_inv w).k c t)]
  exact ⟨⟨(List.mem_filter.1 hg).1, fun ⟨_, hr⟩ => Nat.not_le_of_lt hnew hr⟩,
    fun hm => (List.mem_append.1 hm).elim hn1 hn2⟩

/-- the ranks `newerCount` gives in a three-frame topic: `OldIn … k` asks `k ≤` the rank, so with
    `k = 2` only the oldest frame is old, with `k = 1` the two oldest -/
example :
    let L : List Frame := [{ topic := [97], ctx := 0, id := 1, hash := none, mdata := none, ttl := none },
      { topic := [97], ctx := 0, id := 2, hash := none, mdata := none, ttl := none },
      { topic := [97], ctx := 0, id := 3, hash := none, mdata := none, ttl := none }]
    (L.map (newerCount L) = [2, 1, 0]) := by decide +kernel

end Xs.C08
