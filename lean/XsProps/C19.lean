/-
  C19  Command calls: ordered results, exactly one terminal event, no replay.

  Model: XsModel/Command.lean.  The closure is a parameter `eval : CDef → SFrame → CallRes`: the
  result of a call is a function of the definition and the call frame alone, which is the
  model's reading of "fresh engine clone per call".
-/
import XsProofs.Command
namespace Xs.C19
open Xs.Serve

variable (parse : SFrame → Except String CDef) (eval : CDef → SFrame → CallRes)

/-- one result frame per value, in order, on `<name><suffix>` with the configured TTL in the
    caller's context, followed by exactly one `<name>.complete` -/
theorem results_in_order_then_complete (d : CDef) (c : SFrame) (appends : List OutReq) (values : List String) :
    callOutputs d c (.ok appends values) =
      appends.map (cemit d c) ++ values.map (crecv d c) ++ [ccomplete d c] ∧
    (values.map (crecv d c)).map (·.content) = values.map some ∧
    (∀ o ∈ values.map (crecv d c), o.topic = d.name ++ d.suffix ∧ o.ttl = d.ttl ∧ o.ctx = c.ctx) ∧
    (ccomplete d c).ctx = c.ctx := by
  refine ⟨rfl, ?_, ?_, rfl⟩
  · simp [crecv, Function.comp_def]
  · intro o ho
    obtain ⟨v, _, rfl⟩ := List.mem_map.mp ho
    exact ⟨rfl, rfl, rfl⟩

/-- or else exactly one `<name>.error` (after the results produced before the failure, none when
    the closure fails at once) and no `<name>.complete` -/
theorem failure_is_one_error (d : CDef) (c : SFrame) (appends : List OutReq) (values : List String) (msg : String) :
    callOutputs d c (.error appends values msg) =
      appends.map (cemit d c) ++ values.map (crecv d c) ++ [cerror d c msg] ∧
    (cerror d c msg).ctx = c.ctx := ⟨rfl, rfl⟩

/-- exactly one terminal event per call, and it comes last -/
theorem exactly_one_terminal_event (d : CDef) (c : SFrame) (r : CallRes) :
    ∃ body t, callOutputs d c r = body ++ [t] ∧ (t = ccomplete d c ∨ ∃ m, t = cerror d c m) := by
  cases r with
  | ok appends values => exact ⟨_, _, rfl, Or.inl rfl⟩
  | error appends values msg => exact ⟨_, _, rfl, Or.inr ⟨msg, rfl⟩⟩

/-- each frame of a call is stamped with the definition's id and the call's id - explicit
    appends included, whatever meta the script passed -/
theorem stamped_with_definition_and_call (d : CDef) (c : SFrame) (r : CallRes) :
    ∀ o ∈ callOutputs d c r, metaGet o.mdata "command_id" = some (idText d.id) ∧
      metaGet o.mdata "frame_id" = some (idText c.id) := by
  intro o ho
  cases r <;> simp only [callOutputs, List.mem_append, List.mem_map, List.mem_singleton] at ho <;>
    rcases ho with (⟨q, _, rfl⟩ | ⟨v, _, rfl⟩) | rfl
  -- the terminal frame of a failed call is built with its ids in place, all others by `cstamp`
  case error.inr => simp [cerror, metaGet]
  all_goals exact cstamp_ids _ _ _

/-- concurrent calls do not mix their results' stamps: however the frames of two calls
    interleave in the stream, selecting by `frame_id` gives back each call's frames, complete and
    in order -/
theorem concurrent_calls_do_not_mix (d1 d2 : CDef) (c1 c2 : SFrame) (r1 r2 : CallRes) (m : List SFrame)
    (hne : c1.id ≠ c2.id) (h : Xs.Interleave (callOutputs d1 c1 r1) (callOutputs d2 c2 r2) m) :
    m.filter (fun o => metaGet o.mdata "frame_id" = some (idText c1.id)) = callOutputs d1 c1 r1 := by
  refine Xs.interleave_filter _ h (fun o ho => by simp [(stamped_with_definition_and_call d1 c1 r1 o ho).2])
    fun o ho => ?_
  simpa [(stamped_with_definition_and_call d2 c2 r2 o ho).2] using fun e => hne (idText_inj e).symm

/-- a live call runs the definition in force under (caller's context, name); what it produces
    is determined by that definition and the call frame - no other call, no earlier state -/
theorem call_runs_definition_in_force (t : List CEntry) (f : SFrame) (name : String) (d : CDef)
    (hc : cclassify f.topic = some (name, .call)) (hd : ctblGet t (f.ctx, name) = some d) :
    cmdStep parse eval true t f = (t, callOutputs d f (eval d f)) := by
  simp [cmdStep, hc, hd]

/-- the latest valid definition wins, per (context, name) -/
theorem latest_valid_definition_wins (t : List CEntry) (f : SFrame) (name : String) (d : CDef) (live : Bool)
    (hc : cclassify f.topic = some (name, .define)) (hp : parse f = .ok d) :
    (cmdStep parse eval live t f).2 = [] ∧
    ctblGet (cmdStep parse eval live t f).1 (f.ctx, name) = some d ∧
    ∀ k', k' ≠ (f.ctx, name) → ctblGet (cmdStep parse eval live t f).1 k' = ctblGet t k' := by
  refine ⟨?_, ?_, ?_⟩ <;> simp only [cmdStep, hc, hp]
  · exact ctblGet_insert_same _ _ _
  · exact fun _ h => ctblGet_insert_other h

/-- an invalid definition is reported by exactly one `<name>.error` naming it; the previous
    definition stays -/
theorem invalid_definition_reported (t : List CEntry) (f : SFrame) (name : String) (e : String) (live : Bool)
    (hc : cclassify f.topic = some (name, .define)) (hp : parse f = .error e) :
    cmdStep parse eval live t f = (t, [defineError name f e]) := by
  simp [cmdStep, hc, hp]

/-- a call of an undefined (context, name) - e.g. a name defined in another context only - does nothing -/
theorem undefined_call_does_nothing (t : List CEntry) (f : SFrame) (name : String) (live : Bool)
    (hc : cclassify f.topic = some (name, .call)) (hu : ctblGet t (f.ctx, name) = none) :
    cmdStep parse eval live t f = (t, []) := by
  cases live <;> simp [cmdStep, hc, hu]

/-- no replay: a call met in the stored history is never run … -/
theorem historical_call_never_run (t : List CEntry) (f : SFrame) (name : String)
    (hc : cclassify f.topic = some (name, .call)) : cmdStep parse eval false t f = (t, []) := by
  simp [cmdStep, hc]

/-- … a start-up emits nothing but the reports of invalid definitions … -/
theorem startup_emits_only_definition_errors (t : List CEntry) (l : List SFrame) :
    ∀ p ∈ (cmdRun parse eval false t l).2, ∃ name, cclassify p.1.topic = some (name, .define) := by
  induction l generalizing t with
  | nil => simp [cmdRun]
  | cons f rest ih =>
    intro p hp
    simp only [cmdRun, List.mem_append] at hp
    rcases hp with hp | hp
    · split at hp
      next => cases hp
      next hne =>
        -- only a `.define` makes the history phase emit anything
        cases List.mem_singleton.mp hp
        revert hne
        unfold cmdStep
        rcases cclassify f.topic with _ | ⟨n, _ | _ | _⟩
        case some.define => exact fun _ => ⟨n, rfl⟩
        all_goals exact fun h => absurd rfl h
    · exact ih _ p hp

/-- … and restores exactly the definitions that were in force (C17 for commands) -/
theorem restart_restores_latest_definitions (history live : List SFrame) :
    (cmdServe parse eval history live).1 = (cmdServe parse eval (history ++ live) []).1 := by
  simp only [cmdServe, cmdRun]
  rw [cmdRun_append_table, cmdRun_table_phase parse eval _ live]

/-- non-vacuity: a definition, a redefinition that does not parse, calls before and after, the
    same name called in another context -/
example :
    let parse : SFrame → Except String CDef := fun f =>
      if f.content = some "bad" then .error "e" else .ok { id := f.id, ctx := f.ctx, name := "c" }
    let eval : CDef → SFrame → CallRes := fun _ _ => .ok [] ["1", "2"]
    let r := cmdServe parse eval [{ topic := "c.define", ctx := 1, id := 1 }, { topic := "c.call", ctx := 1, id := 2 }]
      [{ topic := "c.call", ctx := 1, id := 3 }, { topic := "c.define", ctx := 1, id := 4, content := some "bad" },
       { topic := "c.call", ctx := 2, id := 5 }, { topic := "c.call", ctx := 1, id := 6 }]
    r.2.map (fun p => (p.1.id, p.2.map (·.topic))) =
      [(3, ["c.recv", "c.recv", "c.complete"]), (4, ["c.error"]), (6, ["c.recv", "c.recv", "c.complete"])] := by
  decide +kernel

end Xs.C19
