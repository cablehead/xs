/-
  C15  Handler output is stamped, scoped, ordered and all-or-nothing per call.
-/
import XsProofs.Handler
namespace Xs.C15
open Xs.Serve

variable {σ : Type}

/-- every frame a step emits carries the handler's id and the id of the triggering frame and
    lands in the handler's context - whatever `--meta` / `--context` the script asked for -/
theorem outputs_stamped_and_scoped (cfg : HCfg) (eval : σ → SFrame → σ × EvalRes) (st : HState) (env : σ)
    (f : SFrame) : ∀ o ∈ (step cfg eval st env f).2.2.1,
      metaGet o.mdata "handler_id" = some (idText cfg.id) ∧
      metaGet o.mdata "frame_id" = some (idText f.id) ∧ o.ctx = cfg.ctx :=
  fun _ ho => step_outputs_stamped ho

/-- user meta colliding with the stamps loses: the stamps are written last -/
theorem user_meta_cannot_override (m : Option (List (String × String))) (hid fid : Nat) :
    metaGet (stamp m hid fid) "handler_id" = some (idText hid) ∧
    metaGet (stamp m hid fid) "frame_id" = some (idText fid) := stamp_ids m hid fid

/-- … and every other user key survives the stamping -/
theorem user_meta_kept (l : List (String × String)) (k : String) (hid fid : Nat)
    (h1 : k ≠ "handler_id") (h2 : k ≠ "frame_id") :
    metaGet (stamp (some l) hid fid) k = metaGet (some l) k :=
  (metaGet_metaSet_other h2).trans (metaGet_metaSet_other h1)

/-- a successful call: the explicit appends in call order, then the return value on
    `<name><suffix>` with the configured TTL (nothing for a `nothing` return) -/
theorem success_order (cfg : HCfg) (eval : σ → SFrame → σ × EvalRes) (env env' : σ) (f : SFrame)
    (appends : List OutReq) (ret : Ret) (hd : dispatch cfg f = .invoke)
    (he : eval env f = (env', .ok appends ret))
    (hs : (appends.map (emit cfg f) ++ retFrames cfg f ret).all storable = true) :
    step cfg eval .running env f =
      (.running, env', appends.map (emit cfg f) ++ retFrames cfg f ret, true) := by
  simp only [step, hd, he, hs, if_true]

/-- all-or-nothing also for frames the store would refuse: if one frame of the call cannot be
    stored (NUL in its topic, `xs.context` outside the zero context) none of them is emitted -
    the call fails like a closure error -/
theorem unstorable_frame_fails_whole_call (cfg : HCfg) (eval : σ → SFrame → σ × EvalRes) (env env' : σ) (f : SFrame)
    (appends : List OutReq) (ret : Ret) (hd : dispatch cfg f = .invoke)
    (he : eval env f = (env', .ok appends ret))
    (hs : (appends.map (emit cfg f) ++ retFrames cfg f ret).all storable = false) :
    step cfg eval .running env f =
      (.stopped, env', [unregistered cfg f (some "unstorable output")], true) := by
  simp only [step, hd, he, hs]
  rfl

/-- … and for a frame that would not read back once stored (meta nested beyond the decoder's
    limit): one such explicit append that is not ephemeral makes the whole call fail - nothing of
    it is emitted, the instance stops with the error (the defect F29 was the absence of this) -/
theorem unreadable_output_fails_whole_call (cfg : HCfg) (eval : σ → SFrame → σ × EvalRes) (env env' : σ) (f : SFrame)
    (appends : List OutReq) (ret : Ret) (hd : dispatch cfg f = .invoke)
    (he : eval env f = (env', .ok appends ret)) (o : OutReq) (ho : o ∈ appends)
    (hdec : o.decodable = false) (httl : o.ttl ≠ some .ephemeral) :
    step cfg eval .running env f =
      (.stopped, env', [unregistered cfg f (some "unstorable output")], true) := by
  apply unstorable_frame_fails_whole_call cfg eval env env' f appends ret hd he
  rw [List.all_eq_false]
  refine ⟨emit cfg f o, List.mem_append_left _ (List.mem_map_of_mem ho), ?_⟩
  simp [storable, emit, hdec, httl]

theorem return_frame_shape (cfg : HCfg) (f : SFrame) (j : String) :
    (returnFrame cfg f j).topic = cfg.name ++ cfg.suffix ∧ (returnFrame cfg f j).ttl = cfg.ttl ∧
    (returnFrame cfg f j).content = some j := ⟨rfl, rfl, rfl⟩

theorem explicit_append_shape (cfg : HCfg) (f : SFrame) (o : OutReq) :
    (emit cfg f o).topic = o.topic ∧ (emit cfg f o).ttl = o.ttl ∧ (emit cfg f o).content = o.content ∧
    (emit cfg f o).ctx = cfg.ctx := ⟨rfl, rfl, rfl, rfl⟩

/-- all-or-nothing: if the closure fails - wherever the failure sits among its appends - none
    of its frames appear; the only frame emitted is `<name>.unregistered` with the error, and
    the instance is stopped -/
theorem failure_emits_nothing_but_the_error (cfg : HCfg) (eval : σ → SFrame → σ × EvalRes) (env env' : σ)
    (f : SFrame) (msg : String) (hd : dispatch cfg f = .invoke) (he : eval env f = (env', .error msg)) :
    step cfg eval .running env f = (.stopped, env', [unregistered cfg f (some msg)], true) := by
  simp [step, hd, he]

/-- the stamp tells instances apart: however the outputs of two instances with different ids
    interleave in the stream, selecting by `handler_id` gives back one instance's output, complete
    and in its own order -/
theorem concurrent_instances_outputs_separate (cfg1 cfg2 : HCfg) (eval1 eval2 : σ → SFrame → σ × EvalRes)
    (st1 st2 : HState) (env1 env2 : σ) (l1 l2 m : List SFrame) (hne : cfg1.id ≠ cfg2.id)
    (h : Xs.Interleave (run cfg1 eval1 st1 env1 l1).2.2.1 (run cfg2 eval2 st2 env2 l2).2.2.1 m) :
    m.filter (fun o => metaGet o.mdata "handler_id" = some (idText cfg1.id)) = (run cfg1 eval1 st1 env1 l1).2.2.1 :=
  outputs_separate_by_stamp cfg1 cfg2 eval1 eval2 st1 st2 env1 env2 l1 l2 m hne h

/-- non-vacuity: two appends (one trying to override the stamp and the context) and a return -/
example :
    let cfg : HCfg := { id := 5, ctx := 3, name := "h", suffix := ".x" }
    let eval : Unit → SFrame → Unit × EvalRes := fun _ _ =>
      ((), .ok [{ topic := "o1", mdata := some [("handler_id", "zzz")], ctxReq := some 9 }, { topic := "o2" }] (.value "1"))
    ((step cfg eval .running () { topic := "a", ctx := 3, id := 6 }).2.2.1.map
      (fun o => (o.topic, o.ctx, metaGet o.mdata "handler_id"))) =
      [("o1", 3, some (idText 5)), ("o2", 3, some (idText 5)), ("h.x", 3, some (idText 5))] := by decide +kernel

end Xs.C15
