/-
  C05  All lookups agree; head is the newest frame of exactly that topic.
-/
import XsProps.Common
namespace Xs.C05

/-- by id ⇔ in the all-contexts stream ⇔ in its own context's stream - for every 128-bit
    context id (the all-ones id included: its scan range is open-ended; F12, fixed) -/
theorem lookups_agree (ops : List Op) (w : WfOps ops) (f : Frame) (hid : f.id < idBound)
    (hc : f.ctx < idBound) :
    ((after ops).get f.id = some f ↔ f ∈ (after ops).iterFrames none none) ∧
    ((after ops).get f.id = some f ↔ f ∈ (after ops).iterFrames (some f.ctx) none) := by
  have h := (after_inv w).k
  rw [get_spec h hid, mem_iterFrames h wfRead_none, mem_iterFrames h (wfRead_ctx_none hc)]
  simp [inScope, afterLast]

/-- `head(topic, ctx)` = the last frame of that context's stream whose topic equals `topic`
    byte for byte; `none` if there is none -/
theorem head_exact (ops : List Op) (w : WfOps ops) (t : List Nat) (c : Nat) (ht : NulFree t)
    (hc : c < idBound) :
    (after ops).head t c =
      (topicFrames (after ops) c t).getLast? :=
  head_spec (after_inv w).k ht hc

/-- the stream of the context, filtered to the topic, is what `head` looks at: same thing
    phrased through the context-scoped read -/
theorem head_is_last_of_context_stream (ops : List Op) (w : WfOps ops) (t : List Nat) (c : Nat)
    (ht : NulFree t) (hc : c < idBound) :
    (after ops).head t c =
      (((after ops).iterFrames (some c) none).filter (fun f => decide (f.topic = t))).getLast? := by
  have h := (after_inv w).k
  rw [head_exact ops w t c ht hc, topicFrames,
    iterFrames_spec h (wfRead_ctx_none hc), List.filter_filter]
  exact congrArg _ (List.filter_congr fun f _ => by simp [inScope, afterLast, Bool.and_comm])

/-- a queried topic containing NUL has no head -/
theorem head_nul_none (s : State) (t : List Nat) (c : Nat) (ht : hasNul t = true) :
    s.head t c = none := head_nul ht

/-- a topic containing NUL is rejected by append ... -/
theorem append_nul_rejected (s : State) (f : Frame) (id : Nat) (ht : hasNul f.topic = true) :
    ∀ r, s.append f id ≠ .ok r :=
  fun _ e => Bool.noConfusion ((append_spec.1 e).1.symm.trans ht)

/-- ... and by import, and neither leaves any trace (state, indexes, registry, gc queue,
    broadcast log all unchanged) -/
theorem nul_leaves_no_trace (s : State) (f : Frame) (id : Nat) (ht : hasNul f.topic = true) :
    s.step (.append f id) = s ∧ s.step (.importF f) = s :=
  ⟨step_append_of_rejected (append_nul_rejected s f id ht),
   step_import_of_rejected fun _ e => Bool.noConfusion ((insertFrame_ok e).2.1.symm.trans ht)⟩

/-- the three partitions stay in lock-step over every history: the index keys are exactly
    those of the stored frames -/
theorem partitions_in_lockstep (ops : List Op) (w : WfOps ops) :
    (∀ k, (k, ()) ∈ (after ops).idxT ↔ ∃ f ∈ frames (after ops), k = topicKey f.ctx f.topic f.id) ∧
    (∀ k, (k, ()) ∈ (after ops).idxC ↔ ∃ f ∈ frames (after ops), k = ctxKey f.ctx f.id) :=
  ⟨(after_inv w).k.tKeys, (after_inv w).k.cKeys⟩

end Xs.C05
