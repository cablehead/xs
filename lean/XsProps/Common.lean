/-
  Vocabulary shared by the property files.
-/
import XsProofs.History
namespace Xs

/-- every operation of the history has 128-bit ids (the only assumption on histories) -/
def WfOps (ops : List Op) : Prop := ∀ op ∈ ops, WfOp op

/-- the state after a history, starting from the empty store -/
def after (ops : List Op) : State := State.init.run ops

theorem after_inv {ops : List Op} (w : WfOps ops) : Inv (after ops) := reachable_inv ops w

end Xs
