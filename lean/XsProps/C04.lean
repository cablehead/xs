/-
  C04  Acknowledged writes survive a crash; each write is all-or-nothing.

  What is proved: the code commits exactly ONE batch per append / import / remove (and one per
  frame a gc task removes) and acknowledges only after `persist(SyncAll)`; given fjall's journal
  contract (a batch is recovered iff it is completely on disk; a torn tail is discarded — assumed,
  and exercised on real crash images by the check), every crash image recovers to the state
  before or after the operation in flight, and lookups agree in it.
-/
import XsProofs.Journal
import XsProps.Common
namespace Xs.C04
open Xs.Journal

/-- the journal a history writes replays to exactly the partitions the history leaves -/
theorem journal_is_faithful (ops : List Op) :
    applyAll {} (journal State.init ops) = Parts.ofState (after ops) :=
  journal_replay State.init ops

/-- an operation's batches, applied in order, are exactly its effect on the partitions -/
theorem one_step_is_its_batches (s : State) (op : Op) :
    applyAll (Parts.ofState s) (opBatches s op) = Parts.ofState (s.step op) := step_parts s op

/-- append, import and remove commit at most one batch -/
theorem writes_are_single_batches (s : State) (op : Op)
    (h : (∃ f id, op = .append f id) ∨ (∃ f, op = .importF f) ∨ (∃ id, op = .remove id)) :
    (opBatches s op).length ≤ 1 := by
  rcases h with ⟨f, id, rfl⟩ | ⟨f, rfl⟩ | ⟨id, rfl⟩ <;> simp only [opBatches]
  · split
    · split <;> simp
    · simp
  · split <;> simp
  · simp

/-- every operation acknowledged before the crash is fully reflected: an image holding the
    batches of the first k operations recovers to the state after those k operations, whatever
    torn bytes follow -/
theorem acknowledged_writes_survive (ops : List Op) (k : Nat) (torn : Option Batch) :
    recover { complete := journal State.init (ops.take k), torn := torn } =
      Parts.ofState (after (ops.take k)) :=
  journal_is_faithful (ops.take k)

/-- the operation in flight is entirely present or entirely absent -/
theorem inflight_all_or_nothing (pre : List Op) (op : Op) (j : Nat) (torn : Option Batch)
    (h : (∃ f id, op = .append f id) ∨ (∃ f, op = .importF f) ∨ (∃ id, op = .remove id)) :
    let img : Image := { complete := journal State.init pre ++ (opBatches (after pre) op).take j, torn := torn }
    recover img = Parts.ofState (after pre) ∨ recover img = Parts.ofState (after (pre ++ [op])) := by
  unfold after
  intro img
  rw [recover_journal_append]
  cases j with
  | zero => exact .inl rfl
  | succ j =>
    -- at most one batch: any non-empty prefix is all of it
    rw [List.take_of_length_le (Nat.le_trans (writes_are_single_batches _ op h) (Nat.le_add_left 1 j)),
      one_step_is_its_batches, run_snoc]
    exact .inr rfl

/-- never a frame reachable one way but not another: the recovered partitions, with the
    registry `Store::new` rebuilds, satisfy the store invariant (so C05's agreement, C06's
    isolation and C07's registry rule hold on every image) -/
theorem recovered_lookups_agree (ops : List Op) (w : WfOps ops) (k : Nat) :
    Inv (after (ops.take k)).reopen :=
  reopen_inv (after_inv fun op h => w op (List.mem_of_mem_take h)).k

end Xs.C04
