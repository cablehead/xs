/-
  C18  Generator lifecycle: start, ordered output, stop, restart, duplex input.

  Model: XsModel/Generator.lean.  The nushell pipeline is a parameter (the list of strings it
  produces / its input chunks; values that are not strings produce nothing), so is its parser.
-/
import XsProofs.Generator
namespace Xs.C18
open Xs.Serve

/-- start, then one recv per produced string in production order with that string as content,
    then stop -/
theorem lifecycle_order_and_content (t : GTask) (ss : List String) :
    (lifecycle t ss).map (·.topic) =
      topicOf t.name sStart :: ss.map (fun _ => topicOf t.name sRecv) ++ [topicOf t.name sStop] ∧
    (lifecycle t ss).filterMap (·.content) = ss := by
  constructor
  · simp [lifecycle, gframe, Function.comp_def]
  · rw [lifecycle_eq, List.filterMap_append, (duplexLifecycle_contents t ss).1]; exact List.append_nil ss

/-- all of them carry the spawn's id as source_id and live in the spawn's context -/
theorem lifecycle_source_and_context (t : GTask) (ss : List String) :
    ∀ f ∈ lifecycle t ss, metaGet f.mdata "source_id" = some (idText t.id) ∧ f.ctx = t.ctx := by
  intro f hf
  rcases List.mem_append.mp (lifecycle_eq t ss ▸ hf) with hf | hf
  · exact (duplexLifecycle_contents t ss).2 f hf
  · exact List.mem_singleton.mp hf ▸ gframe_source ..

/-- an accepted spawn starts a lifecycle of a task named by the spawn frame -/
theorem accepted_spawn (duplexOf parses : SFrame → Bool) (tbl : List GTask) (f : SFrame) (name c : String)
    (hc : gclassify f.topic = some (name, .spawn)) (hh : gtblHas tbl (f.ctx, name) = none)
    (hn : f.content = some c) (hp : parses f = true) :
    genStep duplexOf parses tbl f =
      (tbl ++ [{ id := f.id, ctx := f.ctx, name := name, duplex := duplexOf f }],
       some (.start { id := f.id, ctx := f.ctx, name := name, duplex := duplexOf f })) := by
  simp [genStep, hc, hh, hn, hp]

/-- a spawn whose expression does not parse yields exactly one `.spawn.error` naming it -/
theorem unparsable_yields_one_error (duplexOf parses : SFrame → Bool) (tbl : List GTask) (f : SFrame) (name c : String)
    (hc : gclassify f.topic = some (name, .spawn)) (hh : gtblHas tbl (f.ctx, name) = none)
    (hn : f.content = some c) (hp : parses f = false) :
    genStep duplexOf parses tbl f = (tbl, some (.reject (spawnError name f "Parse error"))) := by
  simp [genStep, hc, hh, hn, hp]

/-- after a stop the generator is started again, as the same task (same source_id) -/
theorem restarted_after_stop (duplexOf parses : SFrame → Bool) (tbl : List GTask) (f : SFrame) (name : String) (t0 : GTask)
    (hc : gclassify f.topic = some (name, .stop)) (hh : gtblHas tbl (f.ctx, name) = some t0) :
    genStep duplexOf parses tbl f = (tbl, some (.start t0)) := by
  simp [genStep, hc, hh]

/-- a spawn for an already running name yields exactly one `.spawn.error` naming it -/
theorem running_name_yields_one_error (duplexOf parses : SFrame → Bool) (tbl : List GTask) (f : SFrame) (name : String)
    (t0 : GTask) (hc : gclassify f.topic = some (name, .spawn)) (hh : gtblHas tbl (f.ctx, name) = some t0) :
    genStep duplexOf parses tbl f =
      (tbl, some (.reject (spawnError name f "Updating existing generator is not implemented"))) := by
  simp [genStep, hc, hh]

/-- a spawn without content yields exactly one `.spawn.error` naming it -/
theorem missing_content_yields_one_error (duplexOf parses : SFrame → Bool) (tbl : List GTask) (f : SFrame) (name : String)
    (hc : gclassify f.topic = some (name, .spawn)) (hh : gtblHas tbl (f.ctx, name) = none)
    (hn : f.content = none) :
    genStep duplexOf parses tbl f = (tbl, some (.reject (spawnError name f "Missing hash"))) := by
  simp [genStep, hc, hh, hn]

theorem spawn_error_names_the_spawn (name : String) (f : SFrame) (reason : String) :
    metaGet (spawnError name f reason).mdata "source_id" = some (idText f.id) ∧
    (spawnError name f reason).ctx = f.ctx ∧ (spawnError name f reason).topic = topicOf name sSpawnError := by
  simp [spawnError, metaGet]

/-- duplex: the instance is fed the content of exactly the `.send` frames of its context stored
    after its start - once each, in stream order, nothing of another context -/
theorem duplex_input_exactly_once_in_order (t : GTask) (startId : Nat) (stream : List SFrame) :
    duplexInput t startId stream =
      (stream.filter (fun f => f.ctx = t.ctx && startId < f.id && f.topic = topicOf t.name sSend)).filterMap (·.content) ∧
    ((stream.filter (fun f => f.ctx = t.ctx && startId < f.id && f.topic = topicOf t.name sSend)).Sublist stream) :=
  ⟨rfl, List.filter_sublist⟩

theorem duplex_input_grows_with_the_stream (t : GTask) (startId : Nat) (s1 s2 : List SFrame) :
    duplexInput t startId (s1 ++ s2) = duplexInput t startId s1 ++ duplexInput t startId s2 := by
  simp [duplexInput, List.filter_append, List.filterMap_append]

theorem duplex_ignores_other_contexts (t : GTask) (startId : Nat) (f : SFrame) (h : f.ctx ≠ t.ctx) :
    duplexInput t startId [f] = [] := by
  simp [duplexInput, h]

/-- C17 for generators: restarted are exactly the spawns that are the last spawn / spawn.error of
    their (context, name) -/
theorem restart_latest_successful_spawn (h : List SFrame) (r : SFrame) :
    r ∈ gcompact h ↔ ∃ k, GLast h k r true := by
  unfold gcompact
  simp only [List.mem_map, List.mem_filter]
  constructor
  · rintro ⟨⟨k, _, _⟩, ⟨he, ⟨⟩⟩, rfl⟩
    exact ⟨k, mem_foldl_gcompactStep.mp he⟩
  · rintro ⟨k, hl⟩
    exact ⟨⟨k, r, true⟩, ⟨mem_foldl_gcompactStep.mpr hl, rfl⟩, rfl⟩

/-- non-vacuity: a lifecycle producing two strings; a start-up scan in which the spawn of context 1 is
    followed by a `.spawn.error` of its key and only the spawn of context 2 is started again -/
example :
    let t : GTask := { id := 9, ctx := 2, name := "g" }
    ((lifecycle t ["a", "b"]).map (fun f => (f.topic, f.content)) =
      [("g.start", none), ("g.recv", some "a"), ("g.recv", some "b"), ("g.stop", none)]) ∧
    (gcompact [{ topic := "g.spawn", ctx := 1, id := 1, content := some "x" }, { topic := "g.spawn", ctx := 2, id := 2, content := some "x" },
      { topic := "g.spawn", ctx := 1, id := 3, content := some "x" }, { topic := "g.spawn.error", ctx := 1, id := 4 }]).map (·.id) = [2] := by
  decide +kernel

end Xs.C18
