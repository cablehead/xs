/-
  C13  The HTTP API is a faithful and total front end to the store.
  (hyper's HTTP/1.1 syntax layer and the text decoders of xs-meta / import bodies are inputs
  of the model; the correspondence run feeds both sides raw requests.)
-/
import XsProofs.Route
namespace Xs.C13
open Xs.Http Xs.Wire

/-- every request is answered, with 200 / 204 / 400 / 404: no arm of the dispatcher drops the
    connection or blames the server for a request it rejects -/
theorem every_request_answered (s : Srv) (r : Request) :
    (handle s r).2.status = 200 ∨ (handle s r).2.status = 204 ∨ (handle s r).2.status = 400 ∨
    (handle s r).2.status = 404 := by
  unfold Resp.status
  split <;> simp

/-- a request answered with a client error changes nothing in the stream -/
theorem failed_request_no_effect (s : Srv) (r : Request) (he : 400 ≤ (handle s r).2.status) :
    (handle s r).1.store = s.store :=
  (handle_effect s r).2.resolve_right (Nat.not_lt.2 he)

/-- GET /{id} is `Store::get` -/
theorem get_is_store_get (s : Srv) (r : Request) (id : Nat) (hm : matchRoute r = .itemGet id) :
    handle s r = (s, respOfOpt (s.store.get id)) := by
  unfold handle; rw [hm]

/-- DELETE /{id} is `Store::remove` -/
theorem delete_is_store_remove (s : Srv) (r : Request) (id : Nat) (hm : matchRoute r = .itemRemove id) :
    handle s r = ({ s with store := s.store.remove id }, .noContent) := by
  simp [handle, hm]

/-- GET / without follow is the streaming read with the query's options, rendered completely -/
theorem cat_is_store_read (s : Srv) (r : Request) (sse : Bool) (o : ReadOpts)
    (hm : matchRoute r = .streamCat sse o) (hf : o.follow = .off) (ht : o.tail = false) :
    (handle s r).2 = .frames sse (s.store.readHist o.contextId o.lastId o.limit r.now).2 := by
  simp [handle, hm, handleCat, hf, ht, followOf]

/-- POST /{topic} without xs-meta is `Store::append` of exactly that topic, context, ttl and
    content hash; rejected ⇒ 400 -/
theorem append_is_store_append (s : Srv) (r : Request) (t : List Nat) (ttl : TTL) (c : Nat)
    (hm : matchRoute r = .streamAppend t ttl c) (hx : r.xsMeta = .absent) (hb : r.body = [])
    (hok : r.bodyBroken = false) :
    handle s r =
      (match s.store.append { topic := t, ctx := c, id := 0, hash := none, mdata := none, ttl := some ttl,
                               decodable := r.metaDecodable } r.newId with
       | .ok (st, f) => ({ s with store := st }, .frame f)
       | .error _ => (s, .badRequest)) := by
  simp only [handle, hm, handleAppend, handleAppendRead, hx, hb, hok, Bool.false_eq_true, if_false, List.isEmpty_nil, if_true]
  cases s.store.append _ r.newId <;> rfl

/-- GET /head/{topic}: the head of exactly that context; with follow, the subscription that
    feeds the rest of the stream is scoped to that context and that topic -/
theorem head_is_store_head (s : Srv) (r : Request) (t : List Nat) (c : Nat)
    (hm : matchRoute r = .headGet t false c) :
    handle s r = (s, respOfOpt (s.store.head t c)) := by
  unfold handle; rw [hm]; simp [handleHead]

theorem head_follow_scoped (s : Srv) (r : Request) (t : List Nat) (c : Nat)
    (hm : matchRoute r = .headGet t true c) :
    (handle s r).2 = .following false (s.store.head t c).toList false (some c) (some t) := by
  simp [handle, hm, handleHead]

/-- arm order of the dispatcher: the fixed routes win over id / topic interpretation -/
theorem route_table :
    (∀ q sse, matchRoute { method := .get, path := sVersion, query := q, acceptSse := sse } = .version) ∧
    matchRoute { method := .get, path := [47], query := none } = .streamCat false {} ∧
    (∀ q, matchRoute { method := .post, path := sCas, query := q } = .casPost) ∧
    (∀ q, matchRoute { method := .post, path := sImport, query := q } = .importR) ∧
    (∀ p q, matchRoute { method := .other, path := p, query := q } = .notFound) :=
  ⟨fun _ _ => rfl, rfl, fun _ => rfl, fun _ => rfl, fun _ _ => rfl⟩

/-- a path that is not an id is a client error for GET and DELETE; a bad `context`, TTL or
    read option is a client error -/
theorem bad_id_is_400 (r : Request) (hg : r.method = .get ∨ r.method = .delete)
    (hp : parseId (trimSlashes r.path) = none) (h1 : r.path ≠ sVersion) (h2 : r.path ≠ [47])
    (h3 : sHeadP.isPrefixOf r.path = false) (h4 : sCasP.isPrefixOf r.path = false) :
    matchRoute r = .badRequest := by
  rcases hg with hg | hg <;> simp [matchRoute, hg, hp, h1, h2, h3, h4]

end Xs.C13
