/-
  C16  Handler lifecycle: one active instance per name and context.

  Models: XsModel/Handler.lean (one instance), XsModel/Registry.lean (`startHandler`,
  `compactStep`), XsModel/ServeMulti.lean (the serve loop, all its instances and the clients on
  one stream, any interleaving).  The announce-after-subscribe order is the order of `Handler::spawn`; the
  correspondence check observes it at the sync points handler.subscribed / handler.announce and
  the broadcast of `<name>.registered`.
-/
import XsProofs.ServeSys
import XsProofs.ServeMulti
namespace Xs.C16
open Xs.Serve

variable {σ : Type}

/-- a new `.register` (or an `.unregister`) of its name stops the instance, with exactly one
    `<name>.unregistered` naming it and the frame that stopped it -/
theorem replaced_or_unregistered (cfg : HCfg) (eval : σ → SFrame → σ × EvalRes) (env : σ) (f : SFrame)
    (hr : isRegTraffic cfg f = true) (hlater : cfg.id < f.id) :
    step cfg eval .running env f = (.stopped, env, [unregistered cfg f none], false) :=
  replaced_or_unregistered_stops env hr hlater

/-- … so at most one instance per (context, name) outlives a later registration: once the
    subscription holds a later `.register` / `.unregister` of its name, the instance is stopped -/
theorem replaced_instance_is_stopped (cfg : HCfg) (eval : σ → SFrame → σ × EvalRes) (st : HState) (env : σ)
    (l : List SFrame) (f : SFrame) (hf : f ∈ l) (hr : isRegTraffic cfg f = true) (hlater : cfg.id < f.id) :
    (run cfg eval st env l).1 = .stopped := run_stopped_of_regtraffic hf hr hlater

/-- a closure error stops it, announced with the error -/
theorem closure_error_stops (cfg : HCfg) (eval : σ → SFrame → σ × EvalRes) (env env' : σ) (f : SFrame)
    (msg : String) (hd : dispatch cfg f = .invoke) (he : eval env f = (env', .error msg)) :
    step cfg eval .running env f = (.stopped, env', [unregistered cfg f (some msg)], true) := by
  simp [step, hd, he]

/-- an invalid script never becomes an instance and is announced by one `<name>.unregistered` -/
theorem invalid_script_rejected (parse : SFrame → Except String (HCfg × Resume)) (name : String)
    (stream : List SFrame) (r : SFrame) (e : String) (h : parse r = .error e) :
    startHandler parse name stream r = (stream ++ [rejectedFrame name r e], none) := by
  simp [startHandler, h]

/-- each stop is announced exactly once: it is the last frame the instance ever emits -/
theorem stop_announced_exactly_once (cfg : HCfg) (eval : σ → SFrame → σ × EvalRes) (env : σ) (l : List SFrame)
    (hs : (run cfg eval .running env l).1 = .stopped) :
    ∃ p f q e, l = p ++ f :: q ∧ (run cfg eval .running env p).1 = .running ∧
      (run cfg eval .running env l).2.2.1 = (run cfg eval .running env p).2.2.1 ++ [unregistered cfg f e] := by
  rcases run_cases cfg eval env l with h | ⟨p, f, q, e, hl, hr, _, ho, _⟩
  · cases hs.symm.trans h
  · exact ⟨p, f, q, e, hl, hr, ho⟩

/-- a stopped instance processes nothing further -/
theorem stopped_processes_nothing (cfg : HCfg) (eval : σ → SFrame → σ × EvalRes) (env : σ) (l : List SFrame) :
    run cfg eval .stopped env l = (.stopped, env, [], []) := stopped_inert cfg eval env l

/-- once `<name>.registered` is visible the handler is subscribed: everything appended from
    then on is in the live part of its subscription -/
theorem registered_means_subscribed (parse : SFrame → Except String (HCfg × Resume)) (name : String)
    (stream : List SFrame) (r : SFrame) (s' : List SFrame) (st : Started)
    (h : startHandler parse name stream r = (s', some st)) (later : List SFrame) :
    (s' ++ later).drop st.subAt = registeredFrame st.cfg :: later :=
  subscribed_before_announced h later

/-- a tail handler that starts was not replaced or unregistered between its `.register` and its
    subscription - so every later `.register` / `.unregister` of its name reaches it live and
    stops it: at most one instance per (context, name) stays active -/
theorem started_tail_sees_all_later_traffic (parse : SFrame → Except String (HCfg × Resume)) (name : String)
    (stream : List SFrame) (r : SFrame) (s' : List SFrame) (st : Started)
    (h : startHandler parse name stream r = (s', some st)) (ht : st.resume = .tail) :
    ∀ f ∈ stream, f.ctx = st.cfg.ctx → st.cfg.id < f.id → isRegTraffic st.cfg f = false :=
  started_tail_not_superseded h ht

/-- … and one that was never starts; its stop is announced once -/
theorem superseded_tail_never_starts (parse : SFrame → Except String (HCfg × Resume)) (name : String)
    (stream : List SFrame) (r : SFrame) (cfg : HCfg) (f : SFrame)
    (hp : parse r = .ok (cfg, .tail)) (hl : laterTraffic cfg stream = some f) :
    startHandler parse name stream r = (stream ++ [unregistered cfg f none], none) := by
  simp [startHandler, hp, hl]

/-- at most one active instance per (context, name), whichever resume mode and wherever the
    replacing frame fell relative to the subscription: once a later `.register` / `.unregister`
    of its name and context is stored, a started instance that has gone through its subscription
    is stopped -/
theorem replaced_started_instance_is_stopped (parse : SFrame → Except String (HCfg × Resume)) (name : String)
    (pre : List SFrame) (r : SFrame) (s' : List SFrame) (st : Started)
    (h : startHandler parse name pre r = (s', some st)) (ext : List SFrame) (thr f : SFrame)
    (hf : f ∈ s' ++ ext) (hctx : f.ctx = st.cfg.ctx) (hreg : isRegTraffic st.cfg f = true)
    (hlater : st.cfg.id < f.id) (hres : ∀ x, st.resume = .after x → x < f.id)
    (eval : σ → SFrame → σ × EvalRes) (env : σ) :
    (run st.cfg eval .running env (subscription st.cfg st.resume pre ((s' ++ ext).drop st.subAt) thr)).1 = .stopped :=
  run_stopped_of_regtraffic
    (started_covers parse name pre r s' st h ext thr f hf hctx hreg hlater hres) hreg hlater

/-- every `.register` the serve loop gets to is answered by exactly one frame: `<name>.registered`
    (an instance exists, subscribed at that point) or one `<name>.unregistered` (script rejected, or
    a tail handler superseded before it subscribed) and no instance -/
theorem every_register_answered_once (parse : SFrame → Except String (HCfg × Resume)) (name : String)
    (stream : List SFrame) (r : SFrame) :
    (∃ st, startHandler parse name stream r = (stream ++ [registeredFrame st.cfg], some st) ∧
        st.subAt = stream.length) ∨
    (∃ e, parse r = .error e ∧
        startHandler parse name stream r = (stream ++ [rejectedFrame name r e], none)) ∨
    (∃ cfg f, parse r = .ok (cfg, .tail) ∧ laterTraffic cfg stream = some f ∧
        startHandler parse name stream r = (stream ++ [unregistered cfg f none], none)) := by
  unfold startHandler
  rcases parse r with e | ⟨cfg, resume⟩
  · exact .inr (.inl ⟨e, rfl, rfl⟩)
  · dsimp only
    split
    next f hl =>
      -- only a tail handler looks for later traffic
      split at hl
      next ht => exact .inr (.inr ⟨cfg, f, ht ▸ rfl, hl, rfl⟩)
      next => cases hl
    next => exact .inl ⟨⟨cfg, resume, stream.length⟩, rfl, rfl⟩

/-- the closed system (XsModel/ServeSys.lean: clients and other handlers append anything but the
    instance's stop announcement, the instance is handed its subscription frame by frame and its
    output goes back into the same stream): for every interleaving, the instance *is* `Handler.run`
    over what it has been handed, and what it emitted is in the stream -/
theorem closed_system_instance_is_run (cfg : HCfg) (eval : σ → SFrame → σ × EvalRes)
    (pre : List SFrame) (env0 : σ) (as : List LAct) (s : LiveSys σ)
    (e : lrun cfg eval pre (LiveSys.init env0) as = some s) :
    (run cfg eval .running env0 ((s.input cfg pre).take s.pos)).1 = s.st ∧
    (run cfg eval .running env0 ((s.input cfg pre).take s.pos)).2.1 = s.env ∧
    (run cfg eval .running env0 ((s.input cfg pre).take s.pos)).2.2.1 = s.outs ∧
    (∀ g ∈ s.outs, g ∈ s.live) := by
  have hI := lrun_inv (linv_init cfg eval pre env0) e
  obtain ⟨_, h⟩ := hI.run_eq
  rw [h]; exact ⟨rfl, rfl, rfl, hI.outs_live⟩

/-- each stop is announced, and only a stop is: in the closed system, once the instance has been
    handed everything there is, a `<name>.unregistered` naming it is in the stream exactly when it
    has stopped -/
theorem announcement_in_stream_iff_stopped (cfg : HCfg) (eval : σ → SFrame → σ × EvalRes)
    (hno : NoSelfAnnounce cfg eval) (pre : List SFrame) (env0 : σ) (as : List LAct) (s : LiveSys σ)
    (e : lrun cfg eval pre (LiveSys.init env0) as = some s) (hq : s.quiescent cfg pre) :
    (∃ g ∈ s.live, announces cfg g = true) ↔ s.st = .stopped :=
  announced_iff_stopped cfg eval hno pre env0 as s e hq

/-- the start-up scan keeps at most one registration per (context, name) -/
theorem one_registration_per_key (h : List SFrame) : ((compactTable h).map (·.key)).Nodup :=
  (compactTable_eq h).2

/-- non-vacuity: an instance, a trigger, its replacement -/
example :
    let cfg : HCfg := { id := 5, ctx := 0, name := "h" }
    let eval : Unit → SFrame → Unit × EvalRes := fun _ _ => ((), .ok [] (.value "1"))
    let r := run cfg eval .running () [{ topic := "a", ctx := 0, id := 6 }, { topic := "h.register", ctx := 0, id := 7 },
      { topic := "b", ctx := 0, id := 8 }]
    (r.1, r.2.2.1.map (·.topic)) = (HState.stopped, ["h.out", "h.unregistered"]) := by decide +kernel

/-- non-vacuity of the closed system: a client frame, the instance's answer going back into the
    stream and being skipped, a replacing `.register`, the stop announcement - and quiescence -/
example :
    let cfg : HCfg := { id := 5, ctx := 0, name := "h" }
    let eval : Unit → SFrame → Unit × EvalRes := fun _ _ => ((), .ok [] (.value "1"))
    let r := lrun cfg eval [] (LiveSys.init ())
      [.envAppend { topic := "a", ctx := 0, id := 6 }, .instStep, .instStep,
       .envAppend { topic := "h.register", ctx := 0, id := 8 }, .instStep, .instStep]
    (r.map (fun s => (s.st, s.pos, s.live.map (·.topic), decide (s.pos = (s.input cfg []).length)))) =
      some (HState.stopped, 4, ["a", "h.out", "h.register", "h.unregistered"], true) := by decide +kernel

/-- the joint system (XsModel/ServeMulti.lean: clients append anything, the serve loop starts a
    handler for every `.register` it gets to, every instance is handed its own subscription at
    its own pace and writes back into the shared stream), any interleaving from the empty store:
    of two instances of one name and context, the earlier one is stopped as soon as it has been
    handed what there is - at most one instance per (context, name) stays active -/
theorem at_most_one_active_instance (m : MCfg σ) (hparse : ParseOk m.parse) (hres : ResumeOk m.parse)
    (as : List MAct) (s : MSys σ) (e : mrun m MSys.init as = some s)
    (i j : Nat) (x y : Inst σ) (hi : s.insts[i]? = some x) (hj : s.insts[j]? = some y) (hij : i < j)
    (hctx : x.cfg.ctx = y.cfg.ctx) (hname : x.cfg.name = y.cfg.name) (hcx : x.caughtUp m.thr s.stream) :
    x.st = .stopped :=
  one_running_per_key hparse hres (mrun_inv hparse (minv_init m) e) hi hj hij hctx hname hcx

/-- … and the one that is still running once it has been handed everything is the instance of the
    latest registration: no later `.register` or `.unregister` of its name is stored in its
    context -/
theorem active_instance_is_latest_registration (m : MCfg σ) (hparse : ParseOk m.parse) (hres : ResumeOk m.parse)
    (as : List MAct) (s : MSys σ) (e : mrun m MSys.init as = some s) (x : Inst σ) (hx : x ∈ s.insts)
    (hrun : x.st = .running) (hc : x.caughtUp m.thr s.stream) :
    ∀ f ∈ s.stream, f.ctx = x.cfg.ctx → isRegTraffic x.cfg f = true → f.id ≤ x.cfg.id :=
  survivor_is_latest hres (mrun_inv hparse (minv_init m) e) hx hrun hc

/-- … in the joint system too: handing a stopped instance a frame leaves the stream as it is -/
theorem stopped_instance_writes_nothing (m : MCfg σ) (s s' : MSys σ) (i : Nat) (x : Inst σ)
    (hi : s.insts[i]? = some x) (hst : x.st = .stopped) (e : mstep m s (.inst i) = some s') :
    s'.stream = s.stream := by
  rcases hf : (x.sub m.thr s.stream)[x.pos]? with _ | f <;> simp only [mstep, hi, hf] at e <;> cases e
  simp only [hst, step_stopped, pushAll]

/-- non-vacuity of the joint system: two registrations of `h` in one context (the second a tail
    handler), a trigger; the first instance (resuming from the start) answers its threshold marker and the
    trigger, meets the second `.register` and stops; the second one answers what came after it
    subscribed - the first one's stop announcement and a later trigger -/
example :
    let m : MCfg Unit := {
      parse := fun r => .ok ({ id := r.id, ctx := r.ctx, name := "h" }, if r.id = 1 then .head else .tail),
      eval := fun _ _ _ => ((), .ok [] (.value "1")), env0 := fun _ => (), thr := { topic := "xs.threshold", ctx := 0, id := 0 } }
    let r := mrun m MSys.init [.client { topic := "h.register", ctx := 0, id := 0 }, .serve,
      .client { topic := "a", ctx := 0, id := 0 }, .client { topic := "h.register", ctx := 0, id := 0 },
      .inst 0, .inst 0, .inst 0, .inst 0, .serve, .serve, .serve, .serve, .inst 0, .inst 0,
      .client { topic := "b", ctx := 0, id := 0 }, .inst 1, .inst 1, .inst 1]
    r.map (fun s => (s.stream.map (fun f => (f.topic, f.id)), s.insts.map (fun x => (x.cfg.id, x.st, x.pos)))) =
      some ([("h.register", 1), ("h.registered", 2), ("a", 3), ("h.register", 4), ("h.out", 5), ("h.out", 6),
             ("h.registered", 7), ("h.unregistered", 8), ("b", 9), ("h.out", 10), ("h.out", 11)],
            [(1, HState.stopped, 6), (4, HState.running, 3)]) := by decide +kernel

end Xs.C16
