/-
  C03  Follow delivers every frame exactly once, in order, across history → live.

  `run {} as = some s`: any schedule of appends (any number of writers), one reader and its
  history / live / heartbeat tasks, interleaved at the granularity of the sync points.
  (Frames removed or expiring during the follow are outside this LTS: C08/C09.)
-/
import XsProofs.Follow
namespace Xs.C03
open Xs.Follow

/-- history part: every stored frame in the reader's scope after its start position, up to
    where the scan has got, has been delivered — exactly once, in stored (id) order — and
    nothing else -/
theorem history_exactly_once (as : List Act) (s : Sys) (r : Reader) (e : run {} as = some s)
    (hr : s.reader = some r) :
    r.hout = s.committed.filter (fun f => scanScope r f && !afterId r.cursor f) :=
  (reachable_reader e hr).R.hout_eq

/-- live part: what the live task has taken plus what is still queued is exactly what was
    broadcast since the subscription (ephemeral frames included), in order — nothing is
    skipped — as long as the stream is open and has not lagged -/
theorem live_no_gap (as : List Act) (s : Sys) (r : Reader) (e : run {} as = some s)
    (hr : s.reader = some r) (hf : r.opts.follow = true) (hl : r.lagged = false)
    (hopen : r.lphase ≠ .ended) : r.taken ++ r.queue = s.bcast.drop r.subAt :=
  (reachable_reader e hr).R.sub_all hf hl hopen

/-- … and of the frames taken, exactly those in the reader's scope are delivered: the live
    side never drops a frame appended after the subscription as "already seen" -/
theorem live_delivers_all_in_scope (as : List Act) (s : Sys) (r : Reader) (e : run {} as = some s)
    (hr : s.reader = some r) (hf : r.opts.follow = true) :
    r.lout = r.taken.filter (inScope r.opts.ctx) := by
  have hA := reachable_reader e hr
  rw [hA.R.lout_eq]
  exact List.filter_congr fun f hfm =>
    livePass_of_new hA hf f (hA.R.sub_prefix.sublist.subset (List.mem_append_left _ hfm))

/-- the delivered frames are the history part followed by the live part … -/
theorem out_is_history_then_live (as : List Act) (s : Sys) (r : Reader) (e : run {} as = some s)
    (hr : s.reader = some r) : realFrames r.out = r.hout ++ r.lout :=
  (reachable_reader e hr).R.out_eq

/-- … strictly increasing in id, hence never twice -/
theorem deliveries_strictly_increasing (as : List Act) (s : Sys) (r : Reader) (e : run {} as = some s)
    (hr : s.reader = some r) (hf : r.opts.follow = true) : Sorted (realFrames r.out) :=
  deliveries_sorted (reachable_reader e hr) hf

/-- the history part holds only frames that existed when the read began (id ≤ cut), the live
    part only frames appended afterwards (id > cut) -/
theorem cut_separates (as : List Act) (s : Sys) (r : Reader) (e : run {} as = some s)
    (hr : s.reader = some r) (hf : r.opts.follow = true) :
    ∃ c, r.cut = some c ∧ (∀ f ∈ r.hout, f.id ≤ c) ∧ (∀ f ∈ s.bcast.drop r.subAt, c < f.id) := by
  obtain ⟨c, hc⟩ := (reachable_reader e hr).C.cutAt hf
  exact ⟨c, hc.cut_eq, hc.hout_le, hc.lt_live⟩

/-- when the replay of an unlimited follow has handed over: exactly one `xs.threshold`, after
    the whole history part and before everything delivered live -/
theorem threshold_once_and_placed (as : List Act) (s : Sys) (r : Reader) (e : run {} as = some s)
    (hr : s.reader = some r) (hh : r.hphase = .handed) (hl : r.opts.limit = none) :
    ∃ A B, r.out = A ++ [Out.threshold] ++ B ∧ thresholds A = 0 ∧ thresholds B = 0 ∧
      realFrames A = r.hout ∧ realFrames B = r.lout :=
  ((reachable_reader e hr).T.post hh).1 hl

/-- before the hand-over (and for tail reads, always) no threshold has been delivered -/
theorem no_threshold_before_handover (as : List Act) (s : Sys) (r : Reader) (e : run {} as = some s)
    (hr : s.reader = some r) (hh : r.hphase = .scanning ∨ r.hphase = .stopped ∨ r.hphase = .none) :
    thresholds r.out = 0 :=
  (reachable_reader e hr).T.pre hh

/-- subscription and hand-over are ordered: nothing is delivered live while the replay runs -/
theorem nothing_live_during_replay (as : List Act) (s : Sys) (r : Reader) (e : run {} as = some s)
    (hr : s.reader = some r) (hh : r.hphase = .scanning) : r.lout = [] :=
  (reachable_reader e hr).R.lout_nil hh

/-- the history part is complete: once a following reader has handed over, it has delivered
    every stored frame in its scope with an id up to its cut - nothing that existed when it
    subscribed was skipped -/
theorem history_complete_at_handover (as : List Act) (s : Sys) (r : Reader) (e : run {} as = some s)
    (hr : s.reader = some r) (hh : r.hphase = .handed) :
    ∃ c, r.cut = some c ∧ r.hout = s.committed.filter (fun f => scanScope r f && decide (f.id ≤ c)) := by
  have hA := reachable_reader e hr
  have hR := hA.R
  obtain ⟨c, hC⟩ := hA.C.cutAt (hA.P.handed_follow hh)
  refine ⟨c, hC.cut_eq, hR.hout_eq ▸ List.filter_congr fun f hf => ?_⟩
  cases hsc : scanScope r f with
  | false => rfl
  | true =>
    cases ha : afterId r.cursor f with
    | false =>
      -- passed by the scan: it is in the history part, hence within the cut
      exact (decide_eq_true (hC.hout_le f (hR.hout_eq ▸ List.mem_filter.2 ⟨hf, by simp [hsc, ha]⟩))).symm
    | true =>
      -- not yet passed: the scan's next frame `g` is at or before it, and beyond the cut
      obtain ⟨g, hg, hgf⟩ := find?_first hA.i1.cs (p := fun f => inScope r.opts.ctx f && afterId r.cursor f)
        hf (by simp [ha, (Bool.and_eq_true_iff.1 hsc).1])
      have hcg : c < g.id := by simpa [moreHistory, nextFrame, hg, beyondCut, hC.cut_eq] using hA.H hh
      have hgf : g.id ≤ f.id := hgf.elim (· ▸ Nat.le_refl _) Nat.le_of_lt
      exact (decide_eq_false (Nat.not_le.2 (Nat.lt_of_lt_of_le hcg hgf))).symm

/-- the whole delivery of an unlimited follow that has caught up (hand-over done, queue drained,
    not lagged): every stored in-scope frame up to the cut, exactly one threshold, then every
    in-scope frame broadcast since the subscription - this is the `subscription` the handler
    model (XsModel/Handler.lean) starts from -/
theorem caught_up_delivery (as : List Act) (s : Sys) (r : Reader) (e : run {} as = some s)
    (hr : s.reader = some r) (hh : r.hphase = .handed) (hl : r.opts.limit = none)
    (hlag : r.lagged = false) (hopen : r.lphase ≠ .ended) (hq : r.queue = []) :
    ∃ c A B, r.cut = some c ∧ r.out = A ++ [Out.threshold] ++ B ∧ thresholds A = 0 ∧ thresholds B = 0 ∧
      realFrames A = s.committed.filter (fun f => scanScope r f && decide (f.id ≤ c)) ∧
      realFrames B = (s.bcast.drop r.subAt).filter (inScope r.opts.ctx) := by
  obtain ⟨c, hc, hhist⟩ := history_complete_at_handover as s r e hr hh
  obtain ⟨A, B, ho, hA, hB, hra, hrb⟩ := threshold_once_and_placed as s r e hr hh hl
  have hfol := (reachable_reader e hr).P.handed_follow hh
  refine ⟨c, A, B, hc, ho, hA, hB, by rw [hra, hhist], ?_⟩
  rw [hrb, live_delivers_all_in_scope as s r e hr hfol, ← live_no_gap as s r e hr hfol hlag hopen, hq,
    List.append_nil]

end Xs.C03
