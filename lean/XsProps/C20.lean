/-
  C20  Export then import reproduces the store.
-/
import XsProps.Common
import XsProofs.Import
import XsProofs.HttpImport
namespace Xs.C20

/-- importing, in any order, every stored frame of a store into an empty store reproduces the
    stored frames — same ids, order, topics, contexts, metas, hashes and ttls — and the same
    usable contexts (registrations imported after the frames that use them included) -/
theorem export_import_roundtrip (ops : List Op) (w : WfOps ops) (l : List Frame)
    (hp : l.Perm (frames (after ops))) :
    frames (State.init.importAll l) = frames (after ops) ∧
    ∀ c, c ∈ (State.init.importAll l).contexts ↔ c ∈ (after ops).contexts :=
  Xs.export_import_roundtrip (after_inv w) hp

/-- … hence every read, lookup and head of the copy equals the original's -/
theorem copy_observably_equal (ops : List Op) (w : WfOps ops) (l : List Frame)
    (hp : l.Perm (frames (after ops))) :
    (∀ ctx last limit now, WfRead ctx last →
      ((State.init.importAll l).readSync ctx last limit now).2 = ((after ops).readSync ctx last limit now).2 ∧
      ((State.init.importAll l).readHist ctx last limit now).2 = ((after ops).readHist ctx last limit now).2) ∧
    (∀ i, i < idBound → (State.init.importAll l).get i = (after ops).get i) ∧
    (∀ t c, c < idBound → (State.init.importAll l).head t c = (after ops).head t c) := by
  have hI := after_inv w
  have hl : ∀ f ∈ l, Importable f := fun f hf => (hI.k.wfFrame (hp.mem_iff.1 hf)).importable
  exact observably_equal (importAll_inv inv_init l hl).k hI.k (Xs.export_import_roundtrip hI hp).1

/-- the import order does not matter -/
theorem import_order_irrelevant (l₁ l₂ : List Frame) (hp : l₁.Perm l₂)
    (hl : ∀ f ∈ l₁, Importable f) (hd : l₁.Pairwise (fun a b => a.id ≠ b.id)) :
    frames (State.init.importAll l₁) = frames (State.init.importAll l₂) := by
  have hl2 : ∀ f ∈ l₂, Importable f := fun f hf => hl f (hp.mem_iff.2 hf)
  have hd2 := hp.pairwise hd (fun h => Ne.symm h)
  refine frames_ext (importAll_inv inv_init l₁ hl).k (importAll_inv inv_init l₂ hl2).k fun g => ?_
  rw [mem_frames_importAll_init hl hd, mem_frames_importAll_init hl2 hd2, hp.mem_iff]

/-- import stores a frame as is: its id is kept and it sits at its id's position in the
    stream (the stream stays ordered by id), not at the end -/
theorem import_keeps_id_and_position (s s' : State) (h : Inv s) (f : Frame) (hid : f.id < idBound)
    (hc : f.ctx < idBound) (e : s.insertFrame f = .ok s') :
    f ∈ frames s' ∧ (frames s').Pairwise (fun a b => a.id < b.id) :=
  ⟨(mem_frames_insertFrame h hid e f).2 (Or.inl rfl), frames_sorted (insertFrame_inv h hid hc e).k⟩

/-- importing the same frame again changes nothing -/
theorem import_twice_same (ops : List Op) (w : WfOps ops) (f : Frame) (hf : f ∈ frames (after ops)) :
    frames ((after ops).step (.importF f)) = frames (after ops) ∧
    ∀ c, c ∈ ((after ops).step (.importF f)).contexts ↔ c ∈ (after ops).contexts :=
  import_idempotent (after_inv w) hf

/-- a frame that cannot be stored consistently (NUL in its topic, or JSON that would not read
    back) is rejected whole -/
theorem import_rejected_whole (s : State) (f : Frame) (h : hasNul f.topic = true ∨ f.decodable = false) :
    (∀ s', s.insertFrame f ≠ .ok s') ∧ s.step (.importF f) = s := by
  have hne : ∀ s', s.insertFrame f ≠ .ok s' := by
    intro s' e
    obtain ⟨hd, hn, _⟩ := insertFrame_ok e
    rcases h with h | h <;> simp [hd, hn] at h
  exact ⟨hne, step_import_of_rejected hne⟩

/-- import does not broadcast and does not queue gc work -/
theorem import_silent (s s' : State) (f : Frame) (e : s.insertFrame f = .ok s') :
    s'.gcq = s.gcq ∧ s'.bcast = s.bcast := by
  obtain ⟨_, _, rfl⟩ := insertFrame_ok e
  exact ⟨rfl, rfl⟩

open Xs.Http in
/-- over HTTP (`POST /cas` for the contents, `POST /import` for the frames, as `.import` does):
    whatever the order of the requests - frames before their content, frames before the
    registration of their context, the two kinds interleaved - an empty server that has been sent
    every stored frame of a store holds the original's frames and usable contexts, and its
    content store holds the contents in the order they were sent: neither kind of request looks
    at the other -/
theorem http_import_any_order (ops : List Op) (w : WfOps ops) (items : List Item)
    (hp : (items.filterMap Item.frame?).Perm (frames (after ops))) :
    frames (session {} items).store = frames (after ops) ∧
    (∀ c, c ∈ (session {} items).store.contexts ↔ c ∈ (after ops).contexts) ∧
    (session {} items).cas = (items.filterMap Item.content?).foldl casStep [] := by
  have h := Xs.export_import_roundtrip (after_inv w) hp
  rw [session_store, session_cas]
  exact ⟨h.1, h.2, rfl⟩

open Xs.Http in
/-- non-vacuity: a frame sent before its content and before a second frame; both kinds land -/
example :
    let f1 : Frame := { topic := [97], ctx := 0, id := 5, hash := some "h", mdata := none, ttl := none }
    let f2 : Frame := { topic := [98], ctx := 0, id := 3, hash := none, mdata := none, ttl := none }
    let s := session {} [.frame f1, .content "h" [1, 2], .frame f2]
    ((frames s.store).map (·.id), s.cas) = ([3, 5], [("h", [1, 2])]) := by decide +kernel

end Xs.C20
