/-
  C01  Reads return exactly the live history, once each, in id order.

  `after ops` is the store after an arbitrary history `ops` of append / import / remove / read /
  gc / drain / reopen operations; `WfOps` only says ids are 128-bit.
  `WfRead` asks for 128-bit ids only (the all-ones context id included: F12, fixed).
-/
import XsProps.Common
namespace Xs.C01

/-- synchronous read (`read_sync`, used by `.cat`): exactly the stored frames in scope, after
    `last-id`, not expired at `now`, in the stored (id) order, cut to the first `limit` -/
theorem read_sync_exact (ops : List Op) (w : WfOps ops) (ctx last limit : Option Nat) (now : Nat)
    (wr : WfRead ctx last) :
    ((after ops).readSync ctx last limit now).2 = cut limit (liveHistory (after ops) ctx last now) :=
  readSync_spec (after_inv w).k wr limit now

/-- streaming read without follow (`GET /`, `Store::read`): the same list -/
theorem read_stream_exact (ops : List Op) (w : WfOps ops) (ctx last limit : Option Nat) (now : Nat)
    (wr : WfRead ctx last) :
    ((after ops).readHist ctx last limit now).2 = cut limit (liveHistory (after ops) ctx last now) :=
  readHist_spec (after_inv w).k wr limit now

/-- strictly increasing ids, hence each frame at most once -/
theorem read_strictly_increasing (ops : List Op) (w : WfOps ops) (ctx last limit : Option Nat)
    (now : Nat) (wr : WfRead ctx last) :
    (((after ops).readSync ctx last limit now).2).Pairwise (fun a b => a.id < b.id) := by
  rw [read_sync_exact ops w ctx last limit now wr]
  exact (liveHistory_sorted (after_inv w).k ctx last now).sublist (cut_sublist _ _)

theorem read_no_duplicates (ops : List Op) (w : WfOps ops) (ctx last limit : Option Nat)
    (now : Nat) (wr : WfRead ctx last) : (((after ops).readSync ctx last limit now).2).Nodup :=
  (read_strictly_increasing ops w ctx last limit now wr).imp fun h e => Nat.ne_of_lt h (congrArg _ e)

/-- every returned frame is stored, in scope, after `last-id` and not expired -/
theorem read_sound (ops : List Op) (w : WfOps ops) (ctx last limit : Option Nat) (now : Nat)
    (wr : WfRead ctx last) (f : Frame) (hf : f ∈ ((after ops).readSync ctx last limit now).2) :
    f ∈ frames (after ops) ∧ inScope ctx f = true ∧ afterLast last f = true ∧ f.expired now = false :=
  mem_read (after_inv w).k wr (.inl hf)

/-- without a limit nothing live is left out -/
theorem read_complete (ops : List Op) (w : WfOps ops) (ctx last : Option Nat) (now : Nat)
    (wr : WfRead ctx last) (f : Frame) (hf : f ∈ frames (after ops)) (h1 : inScope ctx f = true)
    (h2 : afterLast last f = true) (h3 : f.expired now = false) :
    f ∈ ((after ops).readSync ctx last none now).2 := by
  rw [read_sync_exact ops w ctx last none now wr]
  exact mem_liveHistory.2 ⟨hf, h1, h2, h3⟩

/-- lookup by id returns exactly the stored frame (topic, context, hash, meta, ttl) -/
theorem get_exact (ops : List Op) (w : WfOps ops) (i : Nat) (hi : i < idBound) (f : Frame) :
    (after ops).get i = some f ↔ f ∈ frames (after ops) ∧ f.id = i :=
  get_spec (after_inv w).k hi f

/-- what is stored: an accepted, non-ephemeral append adds exactly the returned frame -/
theorem append_stores (s s' : State) (h : Inv s) (f0 f : Frame) (id : Nat) (hid : id < idBound)
    (hc : f0.ctx < idBound) (e : s.append f0 id = .ok (s', f)) (hne : f.ttl ≠ some .ephemeral)
    (g : Frame) : g ∈ frames s' ↔ g = f ∨ (g ∈ frames s ∧ g.id ≠ f.id) :=
  mem_frames_append h hid e hne g

/-- an import stores the frame as is, replacing whatever had its id -/
theorem import_stores (s s' : State) (h : Inv s) (f : Frame) (hid : f.id < idBound)
    (hc : f.ctx < idBound) (e : s.insertFrame f = .ok s') (g : Frame) :
    g ∈ frames s' ↔ g = f ∨ (g ∈ frames s ∧ g.id ≠ f.id) :=
  mem_frames_insertFrame h hid e g

/-- a remove takes away exactly the frame with that id -/
theorem remove_removes (s : State) (h : Inv s) (id : Nat) (hid : id < idBound) (g : Frame) :
    g ∈ frames (s.remove id) ↔ g ∈ frames s ∧ g.id ≠ id :=
  mem_frames_remove h.k hid g

/-- reads do not change what is stored -/
theorem read_pure (s : State) (ctx last limit : Option Nat) (now : Nat) :
    frames (s.readSync ctx last limit now).1 = frames s ∧
    frames (s.readHist ctx last limit now).1 = frames s := ⟨rfl, rfl⟩

/-- a restart does not change what is stored (the journal contract is C04's) -/
theorem reopen_pure (s : State) : frames s.reopen = frames s := rfl

end Xs.C01
