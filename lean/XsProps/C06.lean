/-
  C06  Contexts are isolated on every access path of the store.
-/
import XsProps.Common
namespace Xs.C06

/-- a context-scoped scan returns only frames of that context — adjacent ids included -/
theorem scoped_scan_only_own (ops : List Op) (w : WfOps ops) (c : Nat) (last : Option Nat)
    (hc : c < idBound) (hl : ∀ l, last = some l → l < idBound) :
    ∀ f ∈ (after ops).iterFrames (some c) last, f.ctx = c :=
  fun _ hf => of_decide_eq_true ((mem_iterFrames (after_inv w).k (wfRead_ctx hc hl)).1 hf).2.1

theorem scoped_read_only_own (ops : List Op) (w : WfOps ops) (c : Nat) (last limit : Option Nat)
    (now : Nat) (hc : c < idBound) (hl : ∀ l, last = some l → l < idBound) :
    (∀ f ∈ ((after ops).readSync (some c) last limit now).2, f.ctx = c) ∧
    (∀ f ∈ ((after ops).readHist (some c) last limit now).2, f.ctx = c) := by
  have h := (after_inv w).k
  exact ⟨fun f hf => of_decide_eq_true (mem_read h (wfRead_ctx hc hl) (.inl hf)).2.1,
    fun f hf => of_decide_eq_true (mem_read h (wfRead_ctx hc hl) (.inr hf)).2.1⟩

/-- nothing of the context is hidden from its own scoped scan -/
theorem scoped_scan_complete (ops : List Op) (w : WfOps ops) (c : Nat) (hc : c < idBound)
    (f : Frame) (hf : f ∈ frames (after ops)) (e : f.ctx = c) :
    f ∈ (after ops).iterFrames (some c) none :=
  (mem_iterFrames (after_inv w).k (wfRead_ctx_none hc)).2 ⟨hf, decide_eq_true e, rfl⟩

/-- `head` is per context -/
theorem head_only_own (ops : List Op) (w : WfOps ops) (t : List Nat) (c : Nat) (f : Frame)
    (hc : c < idBound) (hh : (after ops).head t c = some f) : f.ctx = c ∧ f.topic = t := by
  cases ht : hasNul t
  · rw [head_spec (after_inv w).k (hasNul_eq_false_iff.1 ht) hc] at hh
    simpa [topicFrames] using (List.mem_filter.1 (List.mem_of_getLast? hh)).2
  · rw [head_nul ht] at hh; cases hh

/-- only the explicit all-contexts read sees every context -/
theorem all_contexts_sees_all (ops : List Op) (w : WfOps ops) :
    (after ops).iterFrames none none = frames (after ops) := by
  rw [iterFrames_all (after_inv w).k none nofun]
  exact List.filter_eq_self.2 fun _ _ => rfl

end Xs.C06
