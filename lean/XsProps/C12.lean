/-
  C12  Wire formats round-trip; nothing accepted can poison later reads.
-/
import XsProofs.Json
import XsProps.Common
namespace Xs.C12
open Xs.Wire

/-- TTL values survive their text spelling (the JSON string and the `ttl=` query value) -/
theorem ttl_roundtrip (t : TTL) (w : WfTTL t) : parseTTL (printTTL t) = .ok t := parseTTL_printTTL t w

/-- whatever parses is a representable value: `head:0`, overflowing or malformed numbers,
    unknown keywords never become a TTL, hence are never stored -/
theorem ttl_parse_sound (s : Text) (t : TTL) (h : parseTTL s = .ok t) : WfTTL t := by
  unfold parseTTL at h
  repeat' split at h
  all_goals cases h
  -- four branches return a value; a number in it went through `parseUnsigned`, which bounds it
  · trivial
  · trivial
  · exact (parseUnsigned_eq_some.1 ‹_›).2.2.2
  · exact ⟨Nat.not_lt.1 ‹_›, (parseUnsigned_eq_some.1 ‹_›).2.2.2⟩

theorem ttl_rejects :
    parseTTL (sHead ++ [48]) = .err .headZero ∧ parseTTL (sTime ++ [45, 49]) = .err .badDuration ∧
    parseTTL sTime = .err .badDuration ∧ parseTTL [110, 101, 118, 101, 114] = .err .badFormat ∧
    parseTTL (sHead ++ [49, 120]) = .err .badHeadN := by decide +kernel

/-- unsigned numbers and ids survive print → parse -/
theorem number_roundtrip (max n : Nat) (h : n ≤ max) : parseUnsigned max (showNat n) = some n :=
  parseUnsigned_showNat h

theorem id_roundtrip (n : Nat) (h : n < 2 ^ 128) : parseId (showId n) = some n := parseId_showId h

/-- read options survive the trip from the client's query encoding to the server's parser:
    all follow modes, ms-granular heartbeats, tail, last-id, limit, context -/
theorem read_options_roundtrip (o : ReadOpts) (w : WfOpts o) : fromQuery (toQuery o) = .ok o := by
  obtain ⟨wf, wl, wc, wn⟩ := w
  obtain ⟨xf, hf, ef⟩ := accRun_follow {} rfl o.follow wf
  have hc := accRun_contextId { follow := xf } rfl o.contextId wc
  obtain ⟨xt, ht, et⟩ := accRun_tail { follow := xf, contextId := o.contextId } rfl o.tail
  have hl := accRun_lastId { follow := xf, contextId := o.contextId, tail := xt } rfl o.lastId wl
  have hn := accRun_limit { follow := xf, contextId := o.contextId, tail := xt, lastId := o.lastId } rfl o.limit wn
  rw [fromQuery, toQuery, parseQuery_renderQuery _ (optsPairs_plain o), optsPairs_split]
  simp only [accRun_append, hf, hc, ht, hl, hn]
  simp [Acc.finish, ef, et]

/-- a query of plain key/value pairs survives the form-urlencoded text layer -/
theorem query_pairs_roundtrip (ps : List (Text × Text)) (h : ∀ kv ∈ ps, PlainPair kv) :
    parseQuery (renderQuery ps) = ps := parseQuery_renderQuery ps h

theorem query_rejects :
    fromQuery (kLimit ++ [61, 49, 38] ++ kLimit ++ [61, 50]) = .err .duplicate ∧
    fromQuery (kFollow ++ [61, 109, 97, 121, 98, 101]) = .err .badFollow ∧
    fromQuery (kLimit ++ [61, 45, 49]) = .err .badLimit ∧
    fromQuery (kLastId ++ [61, 97, 98, 99]) = .err .badId := by decide +kernel

/-- every well-formed frame serialises to JSON (value tree) that parses back identical -/
theorem frame_json_roundtrip (hs : HashSpec) (f : WFrame) (w : WfWFrame hs f) :
    decodeFrame hs (encodeFrame f) = .ok f := by
  have hd : (encodeFrame f).depth ≤ maxDepth := by
    rw [depth_encodeFrame]
    cases hm : f.mdata with
    | none => decide
    | some m => exact Nat.add_comm .. ▸ w.meta_depth m hm
  exact decodeFrame_of_lookups w hd rfl rfl rfl rfl rfl rfl

/-- the nesting limit: a frame whose meta is nested 127 deep serialises but does not parse
    back — the store must refuse it (it does: see `stored_frames_decodable`) -/
theorem deep_meta_undecodable (hs : HashSpec) :
    (decodeFrame hs (encodeFrame { topic := [], ctx := 0, id := 0, hash := none, mdata := some (nest 126), ttl := none })).toOption.isNone = true := by
  rw [decodeFrame_tooDeep]
  · rfl
  · rw [depth_encodeFrame]; simp [optJ, depth_nest, maxDepth]

/-- nothing accepted can poison later reads: after every history, every stored frame is one
    whose JSON parses back (`decodable` is computed from the frame's JSON by the nesting rule
    of `decodeFrame`; `insert_frame` refuses the others) -/
theorem stored_frames_decodable (ops : List Op) (w : WfOps ops) (f : Frame) (hf : f ∈ frames (after ops)) :
    f.decodable = true := ((after_inv w).k.wfFrame hf).dec

/-- an undecodable frame is rejected by append (unless ephemeral: never stored) and by import,
    leaving the store as it was -/
theorem undecodable_rejected (s : State) (f : Frame) (id : Nat) (hd : f.decodable = false)
    (hne : (stamped f id).ttl ≠ some .ephemeral) :
    s.step (.append f id) = s ∧ s.step (.importF f) = s := by
  refine ⟨step_append_of_rejected fun ⟨s', f'⟩ e => ?_, step_import_of_rejected fun s' e => ?_⟩
  · obtain ⟨_, _, h3, h4⟩ := append_spec.1 e
    rw [h3, if_neg hne] at h4
    simp [stamped, hd] at h4
  · simpa [hd] using (insertFrame_ok e).1

end Xs.C12
