/-
  C07  A context accepts appends iff it is registered, across restarts.
-/
import XsProps.Common
namespace Xs.C07

/-- the registry is a function of the stored frames alone, at every point of every history
    (appends, imports, removes, gc, restarts) -/
theorem registry_function_of_frames (ops : List Op) (w : WfOps ops) (c : Nat) :
    c ∈ (after ops).contexts ↔ c = 0 ∨ ∃ f ∈ frames (after ops), f.id = c ∧ f.isReg = true :=
  (after_inv w).c.iff c

/-- an append is accepted iff the topic has no NUL, either it is an `xs.context` frame in the
    zero context or its context is registered, and (unless ephemeral) its JSON reads back -/
theorem append_accepted_iff (s : State) (f : Frame) (id : Nat) :
    (∃ r, s.append f id = .ok r) ↔
      hasNul f.topic = false ∧ (if f.topic = xsContext then f.ctx = 0 else f.ctx ∈ s.contexts) ∧
      ((stamped f id).ttl = some .ephemeral ∨ f.decodable = true) := by
  constructor
  · rintro ⟨⟨s', f'⟩, e⟩
    obtain ⟨h1, h2, rfl, h4⟩ := append_spec.1 e
    exact ⟨h1, h2, Classical.or_iff_not_imp_left.2 fun he => (if_neg he ▸ h4 :).1⟩
  · rintro ⟨hn, hc, hd⟩
    by_cases he : (stamped f id).ttl = some .ephemeral
    · exact ⟨(_, _), append_spec.2 ⟨hn, hc, rfl, by rw [if_pos he]⟩⟩
    · exact ⟨(_, _), append_spec.2 ⟨hn, hc, rfl, by rw [if_neg he]; exact ⟨hd.resolve_left he, rfl⟩⟩⟩

/-- … i.e. iff its registering `xs.context` frame is currently stored in the zero context -/
theorem append_accepted_iff_registered (ops : List Op) (w : WfOps ops) (f : Frame) (id : Nat)
    (ht : f.topic ≠ xsContext) (hd : f.decodable = true) :
    (∃ r, (after ops).append f id = .ok r) ↔
      hasNul f.topic = false ∧
        (f.ctx = 0 ∨ ∃ g ∈ frames (after ops), g.id = f.ctx ∧ g.isReg = true) := by
  rw [append_accepted_iff, if_neg ht, registry_function_of_frames ops w]
  simp [hd]

/-- `xs.context` frames are accepted only in the zero context and kept forever whatever TTL
    was requested -/
theorem xs_context_zero_only_and_forever (s s' : State) (f0 f : Frame) (id : Nat)
    (ht : f0.topic = xsContext) (e : s.append f0 id = .ok (s', f)) :
    f0.ctx = 0 ∧ f.ttl = some .forever := by
  obtain ⟨_, hc, hf, _⟩ := append_spec.1 e
  rw [if_pos ht] at hc
  exact ⟨hc, by rw [hf, stamped, if_pos ht]⟩

/-- a rejected append leaves no frame, no index entry, no registry change, no gc task and
    no broadcast behind -/
theorem rejected_append_no_trace (s : State) (f : Frame) (id : Nat)
    (h : ∀ r, s.append f id ≠ .ok r) : s.step (.append f id) = s := step_append_of_rejected h

/-- an accepted append broadcasts exactly the returned frame -/
theorem accepted_append_broadcasts (s s' : State) (f0 f : Frame) (id : Nat)
    (e : s.append f0 id = .ok (s', f)) : s'.bcast = s.bcast ++ [f] := by
  rcases append_cases e with ⟨_, rfl⟩ | ⟨_, _, rfl⟩ <;> rfl

/-- the set of usable contexts is the same before and after the store is reopened -/
theorem reopen_same_registry (ops : List Op) (w : WfOps ops) (c : Nat) :
    c ∈ (after ops).reopen.contexts ↔ c ∈ (after ops).contexts :=
  -- a restart keeps the stored frames, and the registry is a function of them
  ((reopen_inv (after_inv w).k).c.iff c).trans ((after_inv w).c.iff c).symm

end Xs.C07
