/-
  C02  The stream is append-only even with concurrent writers.

  `run s as = some s'`: `as` is any schedule of the LTS (any number of writers competing for
  the append lock, a reader, in any interleaving of id-assignment / commit / broadcast /
  subscribe / scan / live steps) that the system can perform from `s`.
-/
import XsProofs.Follow
namespace Xs.C02
open Xs.Follow

/-- every reachable state keeps ids, commits and broadcasts totally ordered -/
theorem reachable_ordered (as : List Act) (s : Sys) (e : run {} as = some s) :
    Sorted s.committed ∧ Sorted s.bcast ∧ idsLe s.committed s.lastId :=
  let h := run_inv1 inv1_init as e
  ⟨h.cs, h.bs, h.cle⟩

/-- the visible stream only ever grows at its end: whatever happens between two moments, the
    later stream is the earlier one followed by frames with greater ids -/
theorem stream_grows_only_at_end (as bs : List Act) (s s' : Sys) (e : run {} as = some s)
    (e' : run s bs = some s') :
    ∃ new, s'.committed = s.committed ++ new ∧ ∀ f ∈ new, ∀ g ∈ s.committed, g.id < f.id :=
  run_committed_extends (run_inv1 inv1_init as e) bs e'

/-- no frame with a smaller id later becomes visible: once `g` is stored, anything stored
    afterwards has a greater id -/
theorem no_frame_appears_below (as bs : List Act) (s s' : Sys) (e : run {} as = some s)
    (e' : run s bs = some s') (f : Frame) (hf : f ∈ s'.committed) (hnew : f ∉ s.committed)
    (g : Frame) (hg : g ∈ s.committed) : g.id < f.id := by
  obtain ⟨new, e1, h1⟩ := stream_grows_only_at_end as bs s s' e e'
  exact h1 f ((List.mem_append.1 (e1 ▸ hf)).resolve_left hnew) g hg

/-- a client that repeatedly reads with `last-id` = the last frame it saw receives every
    frame exactly once, however many writers append at the same time -/
theorem poller_exactly_once (as bs : List Act) (s s' : Sys) (e : run {} as = some s)
    (e' : run s bs = some s') :
    ∃ new, s'.committed = s.committed ++ new ∧
      pollAfter s'.committed (newestId s.committed) = new :=
  Xs.Follow.poller_exactly_once (run_inv1 inv1_init as e) bs e'

/-- live subscribers are sent frames in increasing id order -/
theorem broadcast_in_id_order (as : List Act) (s : Sys) (e : run {} as = some s) : Sorted s.bcast :=
  Xs.Follow.broadcast_in_id_order inv1_init as e

/-- the mechanism: while one append is between id assignment and broadcast, no other append
    can be assigned an id, and no follow can subscribe -/
theorem append_is_a_critical_section (s s1 : Sys) (f g : Frame) (i j : Nat) (o : ROpts) (c : Nat)
    (e : step s (.appendId f i) = some s1) :
    step s1 (.appendId g j) = none ∧ (o.follow = true → step s1 (.subscribe o c) = none) := by
  -- `s1` holds the lock, which is the first thing both guards test
  cases Step.of_step e
  exact ⟨by simp [step], fun ho => by simp [step, ho]⟩

end Xs.C02
