/-
  C11  Follow options: limit is exact, tail skips history, never a silent gap.
-/
import XsProofs.Follow
namespace Xs.C11
open Xs.Follow

/-- `limit = n` (n ≥ 1): never more than n frames, whether they come from history, from live
    delivery, or both; synthetic frames are not counted -/
theorem limit_never_exceeded (as : List Act) (s : Sys) (r : Reader) (e : run {} as = some s)
    (hr : s.reader = some r) (n : Nat) (hn : r.opts.limit = some n) (h1 : 1 ≤ n) :
    (realFrames r.out).length ≤ n := by
  have hR := (reachable_reader e hr).R
  rw [hR.out_eq, List.length_append]
  exact (hR.lim_done n hn).resolve_right fun h => Nat.ne_of_gt h1 h.1

/-- once n frames have been delivered and the reader's tasks have wound down, the stream has
    ended: history thread finished, live task ended, heartbeat stopped -/
theorem limit_met_stream_ends (as : List Act) (s : Sys) (r : Reader) (e : run {} as = some s)
    (hr : s.reader = some r) (n : Nat) (hn : r.opts.limit = some n) (h1 : 1 ≤ n)
    (hfull : (realFrames r.out).length = n) (hq : Quiescent s.committed r) : r.closed = true :=
  limit_met_closed (reachable_reader e hr) n hn h1 hfull hq

/-- an ended stream stays ended: no frame, threshold or pulse is ever delivered on it again -/
theorem ended_stream_is_final (c : List Frame) (r : Reader) (h : r.closed = true) (a : RAct) :
    stepReader c r a = none := by
  -- every reader step needs a scanning history thread, a running live task or a live heartbeat
  refine Option.eq_none_iff_forall_ne_some.2 fun r' e => ?_
  cases RStep.of_stepReader e <;> simp [Reader.closed, *] at h

/-- while following with fewer than n frames delivered the live task is still there -/
theorem limit_not_met_still_open (as : List Act) (s : Sys) (r : Reader) (e : run {} as = some s)
    (hr : s.reader = some r) (n : Nat) (hn : r.opts.limit = some n) (hrun : r.lphase = .running) :
    (realFrames r.out).length < n ∨ n = 0 := by
  have hR := (reachable_reader e hr).R
  rw [hR.out_eq, List.length_append]
  exact (hR.lim_live n hn hrun).imp_right (·.1)

/-- `tail` delivers no historical frame -/
theorem tail_no_history (as : List Act) (s : Sys) (r : Reader) (e : run {} as = some s)
    (hr : s.reader = some r) (ht : r.opts.tail = true) : r.hout = [] := by
  have h := reachable_reader e hr
  exact h.R.ph_none (h.T.tail_none ht)

/-- pulses go only to a subscriber that asked for a heartbeat, and only while its live
    delivery is running; a reader gets at most the one threshold of C03 -/
theorem pulses_only_with_heartbeat (as : List Act) (s : Sys) (r : Reader) (e : run {} as = some s)
    (hr : s.reader = some r) (hp : pulses r.out > 0) : r.opts.heartbeat = true :=
  (reachable_reader e hr).T.pulse_only_hb hp

theorem heartbeat_stops_with_live (as : List Act) (s : Sys) (r : Reader) (e : run {} as = some s)
    (hr : s.reader = some r) (hend : r.lphase = .ended) : r.hbAlive = false :=
  Bool.eq_false_iff.2 fun hx => ((reachable_reader e hr).T.hb hx).2.2 hend

/-- synthetic frames are private to the reader: the stored stream and the broadcast log only
    ever contain appended frames (by construction: `Out.threshold` / `Out.pulse` are not frames),
    and a non-following or limited read gets no threshold at all -/
theorem no_threshold_unless_unlimited_follow (as : List Act) (s : Sys) (r : Reader)
    (e : run {} as = some s) (hr : s.reader = some r) (h : r.opts.limit ≠ none ∨ r.opts.tail = true ∨ r.opts.follow = false) :
    thresholds r.out = 0 := by
  have hA := reachable_reader e hr
  cases hx : r.hphase with
  | handed =>
    rcases h with h | h | h
    · exact (hA.T.post hx).2 h
    · simp [hA.T.tail_none h] at hx
    · -- a non-following read never hands over
      simp [hA.P.handed_follow hx] at h
  | _ => exact hA.T.pre (by simp [hx])

/-- a subscriber that cannot keep up ends: once lagged, no further frame is taken from its
    subscription, and when its tasks have wound down the stream is closed — it never continues
    past a frame it did not deliver -/
theorem lagged_never_continues (c : List Frame) (r : Reader) (hl : r.lagged = true) :
    stepReader c r .liveRecv = none := by
  simp [stepReader, hl]

theorem lagged_stream_ends (as : List Act) (s : Sys) (r : Reader) (e : run {} as = some s)
    (hr : s.reader = some r) (hl : r.lagged = true) (hq : Quiescent s.committed r)
    (hdone : r.hphase ≠ .scanning) : r.closed = true :=
  lagged_closed (reachable_reader e hr) hl hq hdone

end Xs.C11
