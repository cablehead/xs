/-
  C17  Restart restores exactly the active handlers (generators and commands: see
  XsModel/Generator.lean and XsModel/Command.lean), independently of other contexts.

  Model: XsModel/Registry.lean - the start-up scan of src/handlers/serve.rs as a fold
  (`compactStep`) over the stored stream, keyed by (context, name).
-/
import XsProofs.ServeSys
namespace Xs.C17
open Xs.Serve

variable {σ : Type}

/-- what is started again: exactly the `.register` frames that nothing later in the stored
    stream dropped - no later `.register` / `.unregister` of the same (context, name), no later
    `<name>.unregistered` naming it -/
theorem restored_exactly_the_retained (h : List SFrame) (r : SFrame) :
    r ∈ compact h ↔ ∃ k, Retained h k r := mem_compact

/-- exactly the active handlers: a registration is started again precisely when its live
    instance was still running (given that the instance saw the later registration traffic of
    its key and that stops are announced - C16) -/
theorem restored_iff_still_running (cfg : HCfg) (eval : σ → SFrame → σ × EvalRes) (env : σ)
    (pre post inp : List SFrame) (r : SFrame) (k : Key)
    (hnd : (pre ++ r :: post).Nodup) (hr : regOf k r)
    (hname : cfg.name = k.2) (hctx : cfg.ctx = k.1) (hid : cfg.id = r.id)
    (later : ∀ f ∈ post, r.id < f.id)
    (cov : ∀ f ∈ post, f.ctx = k.1 → isRegTraffic cfg f = true → f ∈ inp)
    (ann : (∃ f ∈ post, classify f.topic = some (k.2, .unregistered) ∧ f.ctx = k.1 ∧
              metaGet f.mdata "handler_id" = some (idText r.id)) ↔
           (run cfg eval .running env inp).1 = .stopped) :
    r ∈ compact (pre ++ r :: post) ↔ (run cfg eval .running env inp).1 = .running :=
  restart_restores_active cfg eval env pre post inp r k hnd hr hname hctx hid later cov ann

/-- … and for an instance the serve loop itself started the first of those two assumptions is a
    theorem (`started_covers`): whatever the resume mode, it is handed every later `.register` /
    `.unregister` of its key -/
theorem restored_iff_started_instance_still_running (parse : SFrame → Except String (HCfg × Resume))
    (hparse : ParseOk parse) (name : String) (P Q : List SFrame) (r : SFrame) (s' : List SFrame) (st : Started)
    (h : startHandler parse name (P ++ r :: Q) r = (s', some st)) (ext : List SFrame) (thr : SFrame)
    (hnd : (s' ++ ext).Nodup)
    (later : ∀ f ∈ Q ++ registeredFrame st.cfg :: ext, r.id < f.id)
    (hres : ∀ x, st.resume = .after x → x ≤ r.id)
    (eval : σ → SFrame → σ × EvalRes) (env : σ)
    (ann : (∃ f ∈ Q ++ registeredFrame st.cfg :: ext,
              classify f.topic = some (st.cfg.name, .unregistered) ∧ f.ctx = st.cfg.ctx ∧
              metaGet f.mdata "handler_id" = some (idText r.id)) ↔
           (run st.cfg eval .running env
              (subscription st.cfg st.resume (P ++ r :: Q) ((s' ++ ext).drop st.subAt) thr)).1 = .stopped) :
    r ∈ compact (s' ++ ext) ↔
      (run st.cfg eval .running env
        (subscription st.cfg st.resume (P ++ r :: Q) ((s' ++ ext).drop st.subAt) thr)).1 = .running := by
  obtain ⟨hp, _, hs', _⟩ := startHandler_eq_some.mp h
  obtain ⟨hid, hctx, hcl⟩ := hparse r st.cfg st.resume hp
  have hS : s' ++ ext = P ++ r :: (Q ++ registeredFrame st.cfg :: ext) := by simp [hs']
  have hcov : ∀ f ∈ Q ++ registeredFrame st.cfg :: ext, f.ctx = r.ctx → isRegTraffic st.cfg f = true →
      f ∈ subscription st.cfg st.resume (P ++ r :: Q) ((s' ++ ext).drop st.subAt) thr :=
    fun f hf hfc hreg => started_covers parse name (P ++ r :: Q) r s' st h ext thr f
      (hS ▸ List.mem_append_right _ (List.mem_cons_of_mem _ hf)) (hctx ▸ hfc) hreg (hid ▸ later f hf)
      fun x hx => Nat.lt_of_le_of_lt (hres x hx) (later f hf)
  generalize subscription st.cfg st.resume (P ++ r :: Q) ((s' ++ ext).drop st.subAt) thr = inp at ann hcov ⊢
  rw [hS] at hnd ⊢
  exact restart_restores_active st.cfg eval env P (Q ++ registeredFrame st.cfg :: ext) inp r (r.ctx, st.cfg.name)
    hnd ⟨hcl, rfl⟩ rfl hctx hid later hcov (hctx ▸ ann)

/-- … and in the closed system both assumptions are theorems: for every interleaving of client
    appends and instance steps after `Handler::spawn`, once the instance has been handed
    everything, a restart on the whole stored stream starts its `.register` again exactly when the
    instance is still running.  (Left as hypotheses: ids are distinct and increase after `r`; an
    `after` resume point is not in the future; nobody but the instance writes its stop
    announcement - not the script, not a client, and none is stored before it subscribed.) -/
theorem restart_restores_exactly_the_running_instance (parse : SFrame → Except String (HCfg × Resume))
    (hparse : ParseOk parse) (name : String) (P Q : List SFrame) (r : SFrame) (s' : List SFrame) (st : Started)
    (h : startHandler parse name (P ++ r :: Q) r = (s', some st)) (thr : SFrame)
    (eval : σ → SFrame → σ × EvalRes) (hno : NoSelfAnnounce st.cfg eval) (env0 : σ)
    (as : List LAct) (s : LiveSys σ)
    (e : lrun st.cfg eval (subPre st.cfg st.resume (P ++ r :: Q) thr) (LiveSys.started st.cfg env0) as = some s)
    (hq : s.quiescent st.cfg (subPre st.cfg st.resume (P ++ r :: Q) thr))
    (hnd : (P ++ r :: (Q ++ s.live)).Nodup)
    (later : ∀ f ∈ Q ++ s.live, r.id < f.id)
    (hres : ∀ x, st.resume = .after x → x ≤ r.id)
    (hQ : ∀ f ∈ Q, announces st.cfg f = false) :
    r ∈ compact (P ++ r :: (Q ++ s.live)) ↔ s.st = .running :=
  restart_restores_running_closed parse hparse name P Q r s' st h thr eval hno env0 as s e hq hnd later hres hQ

/-- nothing replaced comes back -/
theorem replaced_not_restored (pre post : List SFrame) (k : Key) (r r2 : SFrame)
    (hnd : (pre ++ r :: post).Nodup) (h2 : r2 ∈ post) (hr2 : regOf k r2) :
    ¬ Retained (pre ++ r :: post) k r :=
  not_retained hnd h2 (hits_iff.mpr ⟨hr2.2, .inl hr2.1⟩)

/-- nothing that failed or was rejected comes back -/
theorem failed_not_restored (pre post : List SFrame) (r f : SFrame) (k : Key)
    (hnd : (pre ++ r :: post).Nodup) (hf : f ∈ post)
    (hc : classify f.topic = some (k.2, .unregistered)) (hx : f.ctx = k.1)
    (hm : metaGet f.mdata "handler_id" = some (idText r.id)) :
    ¬ Retained (pre ++ r :: post) k r :=
  not_retained hnd hf (hits_iff.mpr ⟨hx, .inr (.inr ⟨hc, hm⟩)⟩)

/-- independent of what exists under the same name in other contexts -/
theorem other_contexts_irrelevant (k : Key) (r f : SFrame) (h : f.ctx ≠ k.1) : hits k r f = false :=
  Bool.eq_false_iff.mpr fun e => h (hits_iff.mp e).1

/-- with the same ids, in id order: the handler id is the id of the retained register frame -/
theorem restored_in_id_order (h : List SFrame) : (compact h).Pairwise (fun a b => a.id ≤ b.id) :=
  sortById_sorted _

/-- historical triggers are not re-executed by a handler resuming from tail -/
theorem tail_resume_skips_history (cfg : HCfg) (hist live : List SFrame) (thr : SFrame) :
    subscription cfg .tail hist live thr = live.filter (fun f => f.ctx = cfg.ctx) := rfl

/-- non-vacuity: same name in two contexts, one replaced, one unregistered, one failed -/
example :
    (compact [
      { topic := "h.register", ctx := 1, id := 1 }, { topic := "h.register", ctx := 2, id := 2 },
      { topic := "h.register", ctx := 1, id := 3 }, { topic := "g.register", ctx := 1, id := 4 },
      { topic := "g.unregister", ctx := 1, id := 5 }, { topic := "e.register", ctx := 2, id := 6 },
      { topic := "e.unregistered", ctx := 2, id := 7, mdata := some [("handler_id", idText 6)] },
      { topic := "h.unregistered", ctx := 1, id := 8, mdata := some [("handler_id", idText 1)] }]).map (·.id) = [2, 3] := by
  decide +kernel

end Xs.C17
