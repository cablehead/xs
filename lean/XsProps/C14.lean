/-
  C14  A handler sees each frame once, in order, and never its own output.

  Model: XsModel/Handler.lean (`dispatch`, `step`, `run`, `subscription`).  The closure is a
  parameter `eval : σ → SFrame → σ × EvalRes` over an arbitrary environment type `σ`, so every
  statement holds for every script.  What the store hands the instance is `subscription`
  (context-scoped follow read: C02/C03/C06 are proved for the store model).
-/
import XsProofs.Registry
namespace Xs.C14
open Xs.Serve

variable {σ : Type}

/-- exactly once, in order, until it stops: the frames the closure is run for are exactly the
    frames of the subscription (up to the one that stops the instance; all of it while it is
    running) that are neither its own output nor registration traffic of its name -/
theorem invoked_exactly_once_in_order (cfg : HCfg) (eval : σ → SFrame → σ × EvalRes) (env : σ)
    (l : List SFrame) :
    ∃ p q, l = p ++ q ∧ (run cfg eval .running env l).2.2.2.map (·.2) = p.filter (isInvoke cfg) ∧
      ((run cfg eval .running env l).1 = .running → q = []) := by
  rcases run_cases cfg eval env l with h | ⟨p, f, q, e, hl, hr, hs, _, hi⟩
  · exact ⟨l, [], by simp, (run_running h).1, fun _ => rfl⟩
  · refine ⟨p ++ [f], q, by simp [hl], ?_, fun h => by rw [hs] at h; cases h⟩
    rw [hi, (run_running hr).1, List.filter_append]

/-- … so the invocations are a sublist of what was delivered: no frame twice, none out of order -/
theorem invocations_in_delivery_order (cfg : HCfg) (eval : σ → SFrame → σ × EvalRes) (st : HState)
    (env : σ) (l : List SFrame) : ((run cfg eval st env l).2.2.2.map (·.2)).Sublist l :=
  invocations_sublist cfg eval st env l

/-- in increasing id order: when the stream is in id order, so are the frames the closure is run
    for (the subscription's own threshold marker carries a fresh id and is left aside) -/
theorem invoked_in_increasing_id_order (cfg : HCfg) (eval : σ → SFrame → σ × EvalRes) (st : HState) (env : σ)
    (resume : Resume) (hist live : List SFrame) (thr : SFrame)
    (hs : (hist ++ live).Pairwise (fun a b => a.id < b.id)) :
    (((run cfg eval st env (subscription cfg resume hist live thr)).2.2.2.map (·.2)).filter
      (fun f => f ≠ thr)).Pairwise (fun a b => a.id < b.id) :=
  (hs.sublist (subscription_sublist cfg resume hist live thr)).sublist
    ((invocations_sublist cfg eval st env _).filter _)

/-- never for its own output, never for registration traffic of its name, never once stopped -/
theorem never_own_nor_registration (cfg : HCfg) (eval : σ → SFrame → σ × EvalRes) (st : HState) (env : σ)
    (f : SFrame) (h : (step cfg eval st env f).2.2.2 = true) :
    st = .running ∧ isOwn cfg f = false ∧ isRegTraffic cfg f = false := by
  cases st with
  | stopped => cases h
  | running =>
    rw [step_invoked_eq] at h
    simpa [isInvoke, And.comm] using h

/-- a handler that reacts to every frame cannot feed itself: whatever a run emits is a frame
    the same instance skips -/
theorem cannot_feed_itself (cfg : HCfg) (eval : σ → SFrame → σ × EvalRes) (st : HState) (env : σ)
    (l : List SFrame) : ∀ o ∈ (run cfg eval st env l).2.2.1, isInvoke cfg o = false := by
  intro o ho
  simp [isInvoke, outputs_isOwn ho]

/-- never for a frame of another context: the subscription holds frames of the handler's
    context only, plus the threshold marker of the subscription itself -/
theorem only_own_context (cfg : HCfg) (resume : Resume) (hist live : List SFrame) (thr : SFrame) :
    ∀ f ∈ subscription cfg resume hist live thr, f = thr ∨ f.ctx = cfg.ctx := by
  intro f hf
  rw [subscription_eq_pre, List.mem_append] at hf
  rcases hf with hf | hf
  · exact (mem_subPre.mp hf).2.imp_right (·.2.1)
  · exact .inr (by simpa using (List.mem_filter.mp hf).2)

/-- every frame of its context appended after it subscribed is delivered, in order, after
    whatever the resume point contributes -/
theorem live_frames_all_delivered (cfg : HCfg) (resume : Resume) (hist live : List SFrame) (thr : SFrame) :
    ∃ pre, subscription cfg resume hist live thr = pre ++ live.filter (fun f => f.ctx = cfg.ctx) :=
  ⟨_, subscription_eq_pre cfg resume hist live thr⟩

/-- the environment one invocation leaves is what the next one starts from -/
theorem environment_carries_over (cfg : HCfg) (eval : σ → SFrame → σ × EvalRes) (st : HState) (env : σ)
    (l1 l2 : List SFrame) :
    run cfg eval st env (l1 ++ l2) =
      (let r1 := run cfg eval st env l1
       let r2 := run cfg eval r1.1 r1.2.1 l2
       (r2.1, r2.2.1, r1.2.2.1 ++ r2.2.2.1, r1.2.2.2 ++ r2.2.2.2)) := run_append cfg eval st env l1 l2

/-- the synthetic markers of its own subscription (`xs.threshold`, `xs.pulse`: no meta, a topic
    that is nobody's `.register` / `.unregister`) are frames like any other: a running instance's
    closure is run for them, whatever the handler is called -/
theorem markers_are_invoked (cfg : HCfg) (m : SFrame) (hm : m.mdata = none)
    (ht : m.topic = "xs.pulse" ∨ m.topic = "xs.threshold") : isInvoke cfg m = true := by
  have hreg : isRegTraffic cfg m = false := by
    -- `xs.pulse` / `xs.threshold` are `xs` + a suffix that is no registry suffix
    have e : classify m.topic = some ("xs", .other) := by
      rcases ht with ht | ht <;> rw [ht] <;> decide +kernel
    exact Bool.eq_false_iff.mpr (by simp [isRegTraffic_iff, e])
  simp [isInvoke, hreg, isOwn, hm, metaGet]

/-- … so between two stored frames a pulse marker is one more invocation, in its place -/
theorem pulse_is_one_more_invocation (cfg : HCfg) (eval : σ → SFrame → σ × EvalRes) (env : σ) (p : SFrame)
    (hm : p.mdata = none) (ht : p.topic = "xs.pulse") :
    (step cfg eval .running env p).2.2.2 = true := by
  rw [step_invoked_eq]; exact markers_are_invoked cfg p hm (Or.inl ht)

/-- non-vacuity: a counting closure over three frames (one of them its own output) is run
    twice, with environments 0 and 1 -/
example :
    let cfg : HCfg := { id := 5, ctx := 0, name := "h" }
    let eval : Nat → SFrame → Nat × EvalRes := fun n _ => (n + 1, .ok [] (.value "1"))
    let own : SFrame := { topic := "h.out", ctx := 0, id := 7, mdata := some [("handler_id", idText 5)] }
    (run cfg eval .running 0 [{ topic := "a", ctx := 0, id := 6 }, own, { topic := "b", ctx := 0, id := 8 }]).2.2.2.map
      (fun p => (p.1, p.2.id)) = [(0, 6), (1, 8)] := by decide +kernel

end Xs.C14
