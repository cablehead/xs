/-
  C09  TTL policies are enforced: ephemeral, time:N, head:N.
-/
import XsProps.Common
namespace Xs.C09

/-- an ephemeral frame is broadcast to the followers subscribed at that moment and never
    stored: partitions, registry and gc queue are exactly as before the append … -/
theorem ephemeral_never_stored (s s' : State) (f0 f : Frame) (id : Nat)
    (e : s.append f0 id = .ok (s', f)) (he : f.ttl = some .ephemeral) :
    s'.stream = s.stream ∧ s'.idxT = s.idxT ∧ s'.idxC = s.idxC ∧ s'.contexts = s.contexts ∧
    s'.gcq = s.gcq ∧ s'.bcast = s.bcast ++ [f] := by
  rcases append_cases e with ⟨_, rfl⟩ | ⟨hne, _⟩
  · exact ⟨rfl, rfl, rfl, rfl, rfl, rfl⟩
  · exact absurd he hne

/-- … so no later read, lookup, head or reopen can return it: the stored frames are unchanged -/
theorem ephemeral_not_in_frames (s s' : State) (f0 f : Frame) (id : Nat)
    (e : s.append f0 id = .ok (s', f)) (he : f.ttl = some .ephemeral) : frames s' = frames s := by
  rw [frames, (ephemeral_never_stored s s' f0 f id e he).1]; rfl

/-- a `time:N` frame is never returned by either stream read once N ms have passed since its
    id timestamp -/
theorem time_not_returned (ops : List Op) (w : WfOps ops) (ctx last limit : Option Nat) (now : Nat)
    (wr : WfRead ctx last) :
    (∀ f ∈ ((after ops).readSync ctx last limit now).2, f.expired now = false) ∧
    (∀ f ∈ ((after ops).readHist ctx last limit now).2, f.expired now = false) :=
  ⟨fun _ hf => (mem_read (after_inv w).k wr (.inl hf)).2.2.2, fun _ hf => (mem_read (after_inv w).k wr (.inr hf)).2.2.2⟩

/-- … and is physically gone once the collector has drained after such a read -/
theorem time_collected_after_drain (ops : List Op) (w : WfOps ops) (ctx last : Option Nat) (now : Nat)
    (wr : WfRead ctx last) (f : Frame) (hf : f ∈ frames (after ops)) (h1 : inScope ctx f = true)
    (h2 : afterLast last f = true) (he : f.expired now = true) :
    ∀ g ∈ frames (((after ops).readSync ctx last none now).1.drain), g.id ≠ f.id := by
  have hI := after_inv w
  have htask : GCTask.remove f.id ∈ ((after ops).readSync ctx last none now).1.gcq := by
    simp only [State.readSync, Option.getD, readSyncGo_tasks_all now _ _ (Nat.le_refl _)]
    exact List.mem_append_right _ (mem_expiredTasks.2 ⟨f, (mem_iterFrames hI.k wr).2 ⟨hf, h1, h2⟩, rfl, he⟩)
  exact drain_establishes (P := fun s => ∀ g ∈ frames s, g.id ≠ f.id) (step_inv hI (op := .readSync ctx last none now) trivial) htask
    (fun h g hg => ((mem_frames_remove h.k (hI.k.wfFrame hf).id_lt g).1 hg).2)
    (fun hsub hP g hg => hP g (hsub.subset hg))

/-- after the collector has drained, a (context, topic) for which a `head:k` check is pending
    — i.e. whose `head:k` frame was appended since the last drain — holds at most `k` frames -/
theorem head_bound_after_drain (ops : List Op) (w : WfOps ops) (c : Nat) (t : List Nat) (k : Nat)
    (hpending : GCTask.checkHead c t k ∈ (after ops).gcq) :
    (topicFrames (after ops).drain c t).length ≤ k := by
  have wt := reachable_gcWf ops w _ hpending
  exact drain_establishes (P := fun s => (topicFrames s c t).length ≤ k) (after_inv w) hpending
    (fun h => checkHead_bound h wt.2 wt.1 k)
    (fun hsub hP => Nat.le_trans (List.Sublist.filter _ hsub).length_le hP)

/-- appending a stored `head:k` frame makes that check pending -/
theorem head_append_queues_check (s s' : State) (f0 f : Frame) (id : Nat) (k : Nat)
    (e : s.append f0 id = .ok (s', f)) (hk : f.ttl = some (.head k)) :
    GCTask.checkHead f.ctx f.topic k ∈ s'.gcq := by
  rw [append_gcq e]
  apply List.mem_append_right
  simp [hk, headTask]

/-- the frames that survive a head check are exactly the `k` newest of the topic: no older
    frame survives while a newer one is evicted -/
theorem head_check_keeps_newest (ops : List Op) (w : WfOps ops) (c : Nat) (t : List Nat) (k : Nat)
    (hc : c < idBound) (ht : NulFree t) :
    topicFrames ((after ops).applyTask (.checkHead c t k)) c t =
      (topicFrames (after ops) c t).drop ((topicFrames (after ops) c t).length - k) :=
  checkHead_topic (after_inv w) ht hc k

/-- streaming read path, clock moving while the scan is under way: a frame whose time has passed
    when the scan examines it is not returned - whatever the clock showed when the scan began -
    and a frame that is returned had not expired at that moment -/
theorem scan_judges_each_frame_by_the_clock_then (clock : Nat → Nat) (j : Nat) (fs : List Frame) :
    ∀ f ∈ scanClock clock j fs, ∃ k, fs[k]? = some f ∧ f.expired (clock (j + k)) = false := by
  simp only [scanClock_eq, List.mem_map, List.mem_filter, List.mem_zipIdx_iff_le_and_getElem?_sub]
  rintro f ⟨⟨g, i⟩, ⟨⟨hle, hk⟩, he⟩, rfl⟩
  exact ⟨i - j, hk, by rw [Nat.add_sub_cancel' hle]; simpa using he⟩

/-- … and nothing that has not expired is lost: the scan returns, in order, exactly the frames
    that are unexpired when it reaches them -/
theorem scan_keeps_unexpired (clock : Nat → Nat) (j : Nat) (fs : List Frame) :
    (scanClock clock j fs).Sublist fs ∧
    ∀ k f, fs[k]? = some f → f.expired (clock (j + k)) = false → f ∈ scanClock clock j fs := by
  rw [scanClock_eq]
  refine ⟨(List.zipIdx_map_fst j fs ▸ List.filter_sublist.map _ :), fun k f hk he => ?_⟩
  exact List.mem_map.2 ⟨(f, j + k), List.mem_filter.2
    ⟨List.mem_zipIdx_iff_le_and_getElem?_sub.2 ⟨Nat.le_add_right .., by simpa using hk⟩, by simp [he]⟩, rfl⟩

end Xs.C09
